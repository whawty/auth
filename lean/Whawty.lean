import Whawty.Props.C01
import Whawty.Props.C02
import Whawty.Props.C03
import Whawty.Props.C04
import Whawty.Props.C05
import Whawty.Props.C06
import Whawty.Props.C07
import Whawty.Props.C08
import Whawty.Props.C09
import Whawty.Props.C10
import Whawty.Props.C11
import Whawty.Props.C12
import Whawty.Props.C13
import Whawty.Props.C14
import Whawty.Props.C15
import Whawty.Props.C16
import Whawty.Props.C17
import Whawty.Props.C18
import Whawty.Props.C18Reload
import Whawty.Props.C19
import Whawty.Props.C20
import Whawty.Props.GenGrammar
import Whawty.Props.GenFiles
import Whawty.Props.GenCodec
import Whawty.Props.GenSalt
import Whawty.Props.GenScan
import Whawty.Props.GenCheckFile
import Whawty.Props.GenCodecFn
import Whawty.Props.GenArgon
import Whawty.Props.GenHashStr
import Whawty.Props.GenCodecRoundTrip
import Whawty.Props.GenPolicyCond

/-
  The dispatcher's successor function seen from outside: where `afterExec` can lead, and `next`
  as an inductive relation, so that a proof about all steps is a `cases` with one named case per
  way a step can succeed, the successor state in hand. Only `next → Step` is proved
  (`step_of_next`): the direction that invariants of reachable states need. The other direction
  is needed for one label only, the upgrade send (`upgradeSend_enabled`).
-/
import Whawty.Model.Agent
namespace Whawty.Agent

theorem length_snoc_le {α} {l : List α} {a : α} {n : Nat} (h : l.length < n) : (l ++ [a]).length ≤ n := by
  rw [List.length_append]; exact h

theorem length_tail_le {α} {l rest : List α} {a : α} {n : Nat} (hq : l = a :: rest) (h : l.length ≤ n) :
    rest.length ≤ n := by
  subst hq; exact Nat.le_of_succ_le h

theorem respondOrSelect_cases (r : Req) :
    respondOrSelect r = .respond r ∧ r.client.isSome = true ∨ respondOrSelect r = .select := by
  unfold respondOrSelect
  cases r.client <;> simp

/-- The three ways on from executing `r`: to the upgrade send (only with upgrades on), to the
    notification (only if `r` notifies), or straight to the response. -/
theorem afterExec_cases (c : Cfg) (r : Req) :
    afterExec c r = .sendUpgrade r ∧ c.mode ≠ .off ∨
    afterExec c r = .sendNotify r ∧ r.notifies = true ∨
    afterExec c r = respondOrSelect r := by
  fun_cases afterExec c r <;> simp_all

/-- What the dispatcher's position promises: an upgrade is sent only with upgrades on, a
    response only for a request that has a client. -/
def PcOk (c : Cfg) : PC → Prop
  | .sendUpgrade _ => c.mode ≠ .off
  | .respond r => r.client.isSome = true
  | _ => True

theorem pcOk_respondOrSelect (c : Cfg) (r : Req) : PcOk c (respondOrSelect r) := by
  rcases respondOrSelect_cases r with ⟨e, h⟩ | e <;> rw [e]
  · exact h
  · trivial

theorem pcOk_afterExec (c : Cfg) (r : Req) : PcOk c (afterExec c r) := by
  rcases afterExec_cases c r with ⟨e, h⟩ | ⟨e, _⟩ | e <;> rw [e]
  · exact h
  · trivial
  · exact pcOk_respondOrSelect c r

inductive Step (c : Cfg) (s : St) : Label → St → Prop
  | enqAuth {cl up} : cl ∉ s.waiting → s.qAuth.length < c.capAuth →
      Step c s (.enqAuth cl up)
        { s with qAuth := s.qAuth ++ [⟨.auth up, some cl, false⟩], waiting := cl :: s.waiting }
  | enqUpdate {cl n} : cl ∉ s.waiting → s.qUpdate.length < c.capUpdate →
      Step c s (.enqUpdate cl n)
        { s with qUpdate := s.qUpdate ++ [⟨.update, some cl, n⟩], waiting := cl :: s.waiting }
  | enqOther {cl n} : cl ∉ s.waiting → s.qOther.length < c.capOther →
      Step c s (.enqOther cl n)
        { s with qOther := s.qOther ++ [⟨.other, some cl, n⟩], waiting := cl :: s.waiting }
  | selAuth {r rest} : s.pc = .select → s.qAuth = r :: rest →
      Step c s .selAuth { s with qAuth := rest, pc := afterExec c r, executed := s.executed ++ [r] }
  | selUpdate {r rest} : s.pc = .select → s.qUpdate = r :: rest →
      Step c s .selUpdate { s with qUpdate := rest, pc := afterExec c r, executed := s.executed ++ [r] }
  | selOther {r rest} : s.pc = .select → s.qOther = r :: rest →
      Step c s .selOther { s with qOther := rest, pc := afterExec c r, executed := s.executed ++ [r] }
  | upgradeLocal {r} : s.pc = .sendUpgrade r → c.mode = .localBlocking ∨ c.mode = .localNonBlocking →
      s.qUpdate.length < c.capUpdate →
      Step c s .upgradeSend { s with qUpdate := s.qUpdate ++ [upgradeReq], pc := respondOrSelect r }
  | upgradeRemote {r} : s.pc = .sendUpgrade r → c.mode = .remote → s.qRemote < c.capRemote →
      Step c s .upgradeSend { s with qRemote := s.qRemote + 1, pc := respondOrSelect r }
  | upgradeDrop {r} : s.pc = .sendUpgrade r →
      c.mode = .localNonBlocking ∧ ¬ s.qUpdate.length < c.capUpdate ∨
        c.mode = .remote ∧ ¬ s.qRemote < c.capRemote →
      Step c s .upgradeSend { s with pc := respondOrSelect r }
  | remoteDrain : s.qRemote > 0 → Step c s .remoteDrain { s with qRemote := s.qRemote - 1 }
  | notifySend {r} : s.pc = .sendNotify r → s.qNotify < c.capNotify →
      Step c s .notifySend { s with qNotify := s.qNotify + 1, pc := respondOrSelect r }
  | hookConsume : s.qNotify > 0 → Step c s .hookConsume { s with qNotify := s.qNotify - 1 }
  | respond {r cl} : s.pc = .respond r → r.client = some cl →
      Step c s .respond
        { s with pc := .select, waiting := s.waiting.filter (· ≠ cl), answered := cl :: s.answered }

theorem step_of_next {c : Cfg} {s t : St} {l : Label} (h : next c s l = some t) : Step c s l t := by
  revert h
  -- every branch of `next`; `cases h` closes the failing ones (`none = some t`) and puts the
  -- literal successor state for `t` in the others
  fun_cases next c s l <;> intro h <;> cases h <;> constructor <;> first | assumption | simp_all

/-- The upgrade send is blocked only with upgrades off (where it is never reached) and at the
    blocking send into the dispatcher's own full update queue (defect D5). -/
theorem upgradeSend_enabled {c : Cfg} {s : St} {r : Req} (hp : s.pc = .sendUpgrade r) :
    (next c s .upgradeSend).isSome = true ↔
      c.mode ≠ .off ∧ (c.mode = .localBlocking → s.qUpdate.length < c.capUpdate) := by
  simp only [next, hp]
  cases c.mode <;> simp [apply_ite Option.isSome]

end Whawty.Agent

import Whawty.Model.Base64
import Whawty.Lemmas.Basic
namespace Whawty.B64

theorem alpha_encChar : ∀ {n : Nat}, n < 64 → alpha (encChar n) = some n := by decide +kernel

theorem alpha_pad : alpha pad = none := by decide

/-- 10, 13, 58: LF and CR, which the decoder skips, and ':', which separates the fields of a record. -/
theorem encChar_plain_fin : ∀ n : Fin 64, encChar n.val ≠ 10 ∧ encChar n.val ≠ 13 ∧ encChar n.val ≠ 58 := by
  decide +kernel

theorem encChar_plain (n : Nat) : encChar n ≠ 10 ∧ encChar n ≠ 13 ∧ encChar n ≠ 58 := by
  by_cases h : n < 64
  · exact encChar_plain_fin ⟨n, h⟩
  · -- every value from 63 on is '_'
    have : encChar n = 95 := by
      unfold encChar
      rw [if_neg (by omega), if_neg (by omega), if_neg (by omega), if_neg (by omega)]
    rw [this]; decide

theorem encode_chars (x : Bytes) : ∀ c ∈ encode x, c ≠ 10 ∧ c ≠ 13 ∧ c ≠ 58 := by
  have hpad : pad ≠ 10 ∧ pad ≠ 13 ∧ pad ≠ 58 := by decide
  fun_induction encode x with
  | case1 => simp
  | case2 =>
    simp only [List.forall_mem_cons]
    exact ⟨encChar_plain _, encChar_plain _, hpad, hpad, by simp⟩
  | case3 =>
    simp only [List.forall_mem_cons]
    exact ⟨encChar_plain _, encChar_plain _, encChar_plain _, hpad, by simp⟩
  | case4 _ _ _ _ _ ih =>
    simp only [List.forall_mem_cons]
    exact ⟨encChar_plain _, encChar_plain _, encChar_plain _, encChar_plain _, ih⟩

/-! ### One quantum

Four characters carry the sextets `x y z w` of a 24-bit value; the decoder puts the value
together again and cuts it into bytes. A padded quantum lacks the low sextets. -/

theorem decodeStripped_quad {x y z w : Nat} (hx : x < 64) (hy : y < 64) (hz : z < 64) (hw : w < 64)
    (rest : Bytes) :
    decodeStripped (encChar x :: encChar y :: encChar z :: encChar w :: rest) =
      (decodeStripped rest).map (bytes3 (x * 262144 + y * 4096 + z * 64 + w) ++ ·) := by
  simp only [decodeStripped, alpha_encChar hx, alpha_encChar hy, alpha_encChar hz, alpha_encChar hw]

theorem decodeStripped_pad1 {x y z : Nat} (hx : x < 64) (hy : y < 64) (hz : z < 64) :
    decodeStripped [encChar x, encChar y, encChar z, pad] =
      some (bytes2 (x * 262144 + y * 4096 + z * 64)) := by
  simp only [decodeStripped, alpha_encChar hx, alpha_encChar hy, alpha_encChar hz, alpha_pad, and_self,
    if_true]

theorem decodeStripped_pad2 {x y : Nat} (hx : x < 64) (hy : y < 64) :
    decodeStripped [encChar x, encChar y, pad, pad] = some (bytes1 (x * 262144 + y * 4096)) := by
  simp only [decodeStripped, alpha_encChar hx, alpha_encChar hy, alpha_pad, and_self, if_true]

theorem sextets_lt {n : Nat} (h : n < 2 ^ 24) :
    n / 262144 < 64 ∧ n / 4096 % 64 < 64 ∧ n / 64 % 64 < 64 ∧ n % 64 < 64 :=
  ⟨Nat.div_lt_of_lt_mul h, Nat.mod_lt _ (by decide), Nat.mod_lt _ (by decide), Nat.mod_lt _ (by decide)⟩

theorem sextets_sum (n : Nat) :
    n / 262144 * 262144 + n / 4096 % 64 * 4096 + n / 64 % 64 * 64 + n % 64 = n := by
  rw [div_mul_add_mod_mul n 4096 64, div_mul_add_mod_mul n 64 64, Nat.div_add_mod']

/-- Two bytes fill the upper three sextets … -/
theorem sextets_sum3 {n : Nat} (h : n % 64 = 0) :
    n / 262144 * 262144 + n / 4096 % 64 * 4096 + n / 64 % 64 * 64 = n := by
  have := sextets_sum n
  rwa [h, Nat.add_zero] at this

/-- … and one byte the upper two. -/
theorem sextets_sum2 {n : Nat} (h : n % 4096 = 0) : n / 262144 * 262144 + n / 4096 % 64 * 4096 = n := by
  rw [div_mul_add_mod_mul n 4096 64, ← Nat.add_zero (_ * _), ← h, Nat.div_add_mod']

theorem bytes3_eq (a b c : UInt8) : bytes3 (a.toNat * 65536 + b.toNat * 256 + c.toNat) = [a, b, c] := by
  have e : a.toNat * 65536 + b.toNat * 256 + c.toNat = (a.toNat * 256 + b.toNat) * 256 + c.toNat := by
    rw [Nat.add_mul, Nat.mul_assoc]
  obtain ⟨h1, h2⟩ := mul_add_div_mod (m := 256) (a.toNat * 256 + b.toNat) c.toNat_lt
  obtain ⟨h3, h4⟩ := mul_add_div_mod (m := 256) a.toNat b.toNat_lt
  simp only [bytes3, e, show (65536 : Nat) = 256 * 256 from rfl, ← Nat.div_div_eq_div_mul, h1, h2, h3, h4,
    UInt8.ofNat_toNat]

theorem bytes2_eq (a b : UInt8) : bytes2 (a.toNat * 65536 + b.toNat * 256) = [a, b] := by
  have e : a.toNat * 65536 + b.toNat * 256 = (a.toNat * 256 + b.toNat) * 256 := by
    rw [Nat.add_mul, Nat.mul_assoc]
  obtain ⟨h1, h2⟩ := mul_add_div_mod (m := 256) a.toNat b.toNat_lt
  simp only [bytes2, e, show (65536 : Nat) = 256 * 256 from rfl, ← Nat.div_div_eq_div_mul,
    Nat.mul_div_cancel _ (show 0 < 256 by decide), h1, h2, UInt8.ofNat_toNat]

theorem bytes1_eq (a : UInt8) : bytes1 (a.toNat * 65536) = [a] := by
  simp only [bytes1, Nat.mul_div_cancel _ (by decide : 0 < 65536), UInt8.ofNat_toNat]

theorem decodeStripped_encode (x : Bytes) : decodeStripped (encode x) = some x := by
  fun_induction encode x with
  | case1 => rfl
  | case2 a n =>
    have hn : n < 2 ^ 24 ∧ n % 4096 = 0 := by have := a.toNat_lt; omega
    obtain ⟨l1, l2, -, -⟩ := sextets_lt hn.1
    rw [decodeStripped_pad2 l1 l2, sextets_sum2 hn.2, bytes1_eq]
  | case3 a b n =>
    have hn : n < 2 ^ 24 ∧ n % 64 = 0 := by have := a.toNat_lt; have := b.toNat_lt; omega
    obtain ⟨l1, l2, l3, -⟩ := sextets_lt hn.1
    rw [decodeStripped_pad1 l1 l2 l3, sextets_sum3 hn.2, bytes2_eq]
  | case4 a b c rest n ih =>
    have hn : n < 2 ^ 24 := by have := a.toNat_lt; have := b.toNat_lt; have := c.toNat_lt; omega
    obtain ⟨l1, l2, l3, l4⟩ := sextets_lt hn
    rw [decodeStripped_quad l1 l2 l3 l4, sextets_sum, ih, bytes3_eq]
    rfl

/-- Round trip, also when CR / LF follow (the record line's trailing newline). -/
theorem decode_encode_append (x tail : Bytes) (ht : ∀ c ∈ tail, c = 10 ∨ c = 13) :
    decode (encode x ++ tail) = some x := by
  have h1 : (encode x).filter (fun c => c ≠ 10 ∧ c ≠ 13) = encode x :=
    List.filter_eq_self.mpr fun c hc => by simp [(encode_chars x c hc).1, (encode_chars x c hc).2.1]
  have h2 : tail.filter (fun c => c ≠ 10 ∧ c ≠ 13) = [] :=
    List.filter_eq_nil_iff.mpr fun c hc => by rcases ht c hc with rfl | rfl <;> simp
  rw [decode, List.filter_append, h1, h2, List.append_nil, decodeStripped_encode]

theorem decode_encode (x : Bytes) : decode (encode x) = some x := by
  simpa using decode_encode_append x [] (by simp)

theorem encode_eq_nil {x : Bytes} (h : encode x = []) : x = [] := by
  match x with
  | [] => rfl
  | [_] => simp [encode] at h
  | [_, _] => simp [encode] at h
  | _ :: _ :: _ :: _ => simp [encode] at h

end Whawty.B64

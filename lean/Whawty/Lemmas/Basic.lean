import Whawty.Model.Basic
namespace Whawty

/-! Numbers written in bytes, most significant first (`Model/Basic.lean`). -/

/-- The last digit in base `m` and what stands in front of it. -/
theorem mul_add_div_mod {m r : Nat} (a : Nat) (h : r < m) : (a * m + r) / m = a ∧ (a * m + r) % m = r := by
  rw [Nat.mul_comm, Nat.mul_add_div (Nat.zero_lt_of_lt h), Nat.mul_add_mod, Nat.div_eq_of_lt h, Nat.mod_eq_of_lt h]
  exact ⟨rfl, rfl⟩

/-- What stands above position `k * m`, and the base-`m` digit at position `k`, make up what stands above `k`. -/
theorem div_mul_add_mod_mul (n k m : Nat) : n / (k * m) * (k * m) + n / k % m * k = n / k * k := by
  rw [← Nat.div_div_eq_div_mul, Nat.mul_comm k m, ← Nat.mul_assoc, ← Nat.add_mul, Nat.div_add_mod']

theorem be16val_be16 {n : Nat} (h : n < 65536) :
    be16val (UInt8.ofNat (n / 256)) (UInt8.ofNat (n % 256)) = n := by
  have h' : n / 256 < 256 := Nat.div_lt_of_lt_mul h
  simp only [be16val, UInt8.toNat_ofNat', Nat.mod_eq_of_lt h', Nat.mod_mod, Nat.div_add_mod']

theorem be16_be16val (hi lo : Byte) : be16 (be16val hi lo) = [hi, lo] := by
  obtain ⟨h1, h2⟩ := mul_add_div_mod (m := 256) hi.toNat lo.toNat_lt
  simp only [be16, be16val, h1, h2, UInt8.ofNat_toNat]

theorem length_be16 (n : Nat) : (be16 n).length = 2 := rfl

end Whawty

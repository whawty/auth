namespace Whawty

/-! Loops that may fail: folds over `Option` states in which `none` (the error return) is absorbing.
The first two facts are instances of core's induction principle for folds, `List.foldlRecOn`. -/

theorem foldl_none {α σ : Type} (f : Option σ → α → Option σ) (hf : ∀ a, f none a = none) (l : List α) :
    l.foldl f none = none :=
  List.foldlRecOn (motive := (· = none)) l f rfl fun _ ho a _ => ho ▸ hf a

theorem foldl_some_invariant {α σ : Type} (f : Option σ → α → Option σ) (hf : ∀ a, f none a = none)
    {P : σ → Prop} {l : List α} {s s' : σ} (h : l.foldl f (some s) = some s') (h0 : P s)
    (hstep : ∀ a ∈ l, ∀ t t', P t → f (some t) a = some t' → P t') : P s' := by
  refine List.foldlRecOn (motive := fun o => ∀ t, o = some t → P t) l f (fun t e => Option.some.inj e ▸ h0) ?_ s' h
  intro o ho a ha t' e
  cases o with
  | none => rw [hf] at e; cases e
  | some t => exact hstep a ha t t' (ho t rfl) e

/-- A loop that fails at the first element that is not `ok` and otherwise looks for a `good` one. -/
theorem foldl_all_any {α : Type} {f : Option Bool → α → Option Bool} {ok good : α → Bool}
    (hf : ∀ a, f none a = none) (hs : ∀ b a, f (some b) a = if ok a then some (b || good a) else none)
    (l : List α) (b : Bool) : l.foldl f (some b) = if l.all ok then some (b || l.any good) else none := by
  induction l generalizing b with
  | nil => simp
  | cons a l ih =>
    simp only [List.foldl, List.all_cons, List.any_cons, hs]
    by_cases h : ok a = true
    · simp only [h, if_true, ih, Bool.or_assoc, Bool.true_and]
    · simp [h, foldl_none f hf]

end Whawty

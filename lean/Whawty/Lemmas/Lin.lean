/-
  What the parts of the linearizability checker say — `isPermOfRange`, `respectsRealTime` (a
  `Pairwise`), `validLin`, `replay` — and completeness of the exhaustive search `searchB`.
-/
import Whawty.Model.Lin
namespace Whawty.Lin

/-- Pigeonhole: a list of length `n` that contains every `i < n` is a permutation of `range n`. -/
theorem perm_range_of_length_of_mem {n : Nat} {l : List Nat} (hl : l.length = n) (hall : ∀ i, i < n → i ∈ l) :
    l.Perm (List.range n) := by
  induction n generalizing l with
  | zero => rw [List.length_eq_zero_iff.1 hl]; exact .refl _
  | succ n ih =>
    have hn : n ∈ l := hall n (Nat.lt_succ_self n)
    have hlen : (l.erase n).length = n := by rw [List.length_erase_of_mem hn, hl]; rfl
    have h2 := ih hlen fun i hi => (List.mem_erase_of_ne (Nat.ne_of_lt hi)).2 (hall i (Nat.lt_succ_of_lt hi))
    rw [List.range_succ]
    exact (List.perm_cons_erase hn).trans ((h2.cons n).trans (List.perm_append_comm (l₁ := [n])))

theorem isPermOfRange_iff {n : Nat} {order : List Nat} :
    isPermOfRange n order = true ↔ order.Perm (List.range n) := by
  simp only [isPermOfRange, Bool.and_eq_true, beq_iff_eq, List.all_eq_true, List.mem_range, List.contains_iff_mem]
  exact ⟨fun ⟨hl, hall⟩ => perm_range_of_length_of_mem hl hall,
    fun hp => ⟨hp.length_eq.trans List.length_range, fun i hi => hp.mem_iff.2 (List.mem_range.2 hi)⟩⟩

/-- Operation `i` may be placed before operation `j`: `j` had not responded before `i` was invoked. -/
def MayPrecede (h : List Op) (i j : Nat) : Prop := ∃ a b, h[i]? = some a ∧ h[j]? = some b ∧ ¬ b.res < a.inv

theorem respectsRealTime_iff {h : List Op} {order : List Nat} :
    respectsRealTime h order = true ↔ order.Pairwise (MayPrecede h) := by
  induction order with
  | nil => simp [respectsRealTime]
  | cons i rest ih =>
    simp only [respectsRealTime, Bool.and_eq_true, List.all_eq_true, ih, List.pairwise_cons]
    refine and_congr_left fun _ => forall₂_congr fun j _ => ?_
    unfold MayPrecede
    cases h[i]? <;> cases h[j]? <;> simp

theorem validLin_eq_some_iff {h : List Op} {s0 s : Spec} {order : List Nat} :
    validLin h s0 order = some s ↔
      order.Perm (List.range h.length) ∧ order.Pairwise (MayPrecede h) ∧ replay h s0 order = some s := by
  simp only [validLin, Option.ite_none_right_eq_some, Bool.and_eq_true, isPermOfRange_iff, respectsRealTime_iff,
    and_assoc]

theorem replay_cons_iff {h : List Op} {s s' : Spec} {i : Nat} {rest : List Nat} :
    replay h s (i :: rest) = some s' ↔
      ∃ op, h[i]? = some op ∧ (apply s op.call).2 = op.ret ∧ replay h (apply s op.call).1 rest = some s' := by
  simp only [replay]
  cases h[i]? <;> simp

/-- Completeness of the exhaustive search: whenever SOME order of the remaining operations is
    a real-time respecting replay ending in an accepted state, `searchB` says so. -/
theorem searchB_complete {h : List Op} {final : Spec → Bool} {order remaining : List Nat} {s sf : Spec}
    (hp : remaining.Perm order) (hnd : order.Nodup) (hrt : order.Pairwise (MayPrecede h))
    (hrep : replay h s order = some sf) (hf : final sf = true) :
    searchB h final order.length s remaining = true := by
  induction order generalizing s remaining with
  | nil =>
    cases hrep
    simp [hp.eq_nil, searchB, hf]
  | cons i rest ih =>
    obtain ⟨hmin, hrt'⟩ := List.pairwise_cons.1 hrt
    obtain ⟨op, hop, hret, hrep'⟩ := replay_cons_iff.1 hrep
    obtain ⟨hi_notin, hnd'⟩ := List.nodup_cons.1 hnd
    have hi : i ∈ remaining := hp.mem_iff.2 (.head _)
    -- the search may pick `i`, the first operation of the order
    simp only [List.length_cons, searchB, List.isEmpty_eq_false_iff_exists_mem.2 ⟨i, hi⟩, Bool.false_eq_true,
      if_false, List.any_eq_true]
    refine ⟨i, hi, ?_⟩
    simp only [hop, Bool.and_eq_true, Bool.not_eq_true', beq_iff_eq, List.any_eq_false]
    refine ⟨⟨fun j hj hjp => ?_, hret⟩, ?_⟩
    · -- it is minimal: whatever else remains comes later in the order
      simp only [decide_eq_true_eq] at hjp
      have hjr : j ∈ rest := (List.mem_cons.1 (hp.mem_iff.1 hj)).resolve_left hjp.1
      obtain ⟨a, b, ha, hb, hnb⟩ := hmin j hjr
      rw [hop] at ha; cases ha
      rw [hb] at hjp
      exact hnb (by simpa using hjp.2)
    · -- and the rest of the order linearizes what then remains
      have hrest : (i :: rest).filter (· ≠ i) = rest := by
        simpa [List.filter_eq_self] using fun a ha (e : a = i) => hi_notin (e ▸ ha)
      exact ih (hrest ▸ hp.filter _) hnd' hrt' hrep'

end Whawty.Lin

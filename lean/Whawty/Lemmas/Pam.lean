import Whawty.Model.Pam
import Whawty.Lemmas.Basic
namespace Whawty.Pam

/-! The reply handling is specified on the byte stream the server delivers (`stream`, `verdictSpec`);
`readN_spec` relates `_whawty_read_data` to that stream, and `recvVerdict_eq_spec` the whole reply
handling to the specification. -/

/-- The bytes the server delivers before the first timeout / close. -/
def stream : List SrvEv → Bytes
  | [] => []
  | .data b :: rest => b ++ stream rest
  | _ :: _ => []

/-- `_whawty_read_data` against the delivered byte stream: it returns the next `need` bytes and
    leaves the rest of the stream exactly when that many bytes arrive before a timeout, a close or an
    interrupt. -/
theorem readN_spec (need : Nat) (evs : List SrvEv) (acc : Bytes) (hpos : 0 < need) :
    match readN need evs acc with
    | .full got rest => got = acc ++ (stream evs).take need ∧ need ≤ (stream evs).length ∧
        stream rest = (stream evs).drop need
    | _ => (stream evs).length < need := by
  fun_induction readN need evs acc with
  | case1 | case2 | case3 | case4 => exact hpos
  | case5 need b rest acc hle =>
    simp only [stream, List.take_append_of_le_length hle, List.drop_append_of_le_length hle, List.length_append]
    exact ⟨trivial, Nat.le_trans hle (Nat.le_add_right ..), trivial⟩
  | case6 need b rest acc hnle ih =>
    have hb : b.length ≤ need := Nat.le_of_not_le hnle
    specialize ih (Nat.sub_pos_of_lt (Nat.lt_of_not_le hnle))
    simp only [stream, List.length_append, List.take_append, List.take_of_length_le hb, List.drop_append,
      List.drop_of_length_le hb, List.nil_append, ← List.append_assoc]
    split at ih
    · exact ⟨ih.1, Nat.sub_le_iff_le_add'.mp ih.2.1, ih.2.2⟩
    · exact Nat.add_lt_of_lt_sub' ih

/-- Functional specification of the reply handling in terms of the delivered byte stream. -/
def verdictSpec (s : Bytes) : Nat :=
  match s with
  | hi :: lo :: body =>
    let l := min (be16val hi lo) 256
    if l = 0 then PAM_AUTH_ERR
    else if body.length < l then PAM_AUTHINFO_UNAVAIL
    else if (body.take l).take 2 = Sasl.okB then PAM_SUCCESS else PAM_AUTH_ERR
  | _ => PAM_AUTHINFO_UNAVAIL

/-- The reply handling reports success exactly on a stream that is a length prefix `L` followed by
    at least `min L 256 ≥ 2` bytes that begin with "OK". -/
theorem verdictSpec_eq_success_iff (s : Bytes) :
    verdictSpec s = PAM_SUCCESS ↔
      ∃ hi lo rest, s = hi :: lo :: 79 :: 75 :: rest ∧
        2 ≤ min (be16val hi lo) 256 ∧ min (be16val hi lo) 256 ≤ rest.length + 2 := by
  constructor
  · intro h
    rcases s with _ | ⟨hi, _ | ⟨lo, body⟩⟩
    · cases h
    · cases h
    simp only [verdictSpec] at h
    by_cases h0 : min (be16val hi lo) 256 = 0
    · rw [if_pos h0] at h; cases h
    by_cases hlen : body.length < min (be16val hi lo) 256
    · rw [if_neg h0, if_pos hlen] at h; cases h
    by_cases hok : (body.take (min (be16val hi lo) 256)).take 2 = Sasl.okB
    · -- the first two of the first `l` bytes are "OK": "OK" is a prefix of the body and `2 ≤ l`
      obtain ⟨⟨rest, rfl⟩, h2⟩ := List.prefix_take_iff.mp (List.prefix_iff_eq_take.mpr hok.symm)
      exact ⟨hi, lo, rest, rfl, h2, Nat.le_of_not_lt hlen⟩
    · rw [if_neg h0, if_neg hlen, if_neg hok] at h; cases h
  · rintro ⟨hi, lo, rest, rfl, h2, hl⟩
    have hok := List.prefix_iff_eq_take.mp ((List.prefix_take_iff (xs := [79, 75])).mpr ⟨⟨rest, rfl⟩, h2⟩)
    simp only [verdictSpec]
    rw [if_neg (Nat.ne_of_gt (Nat.lt_of_lt_of_le Nat.zero_lt_two h2)),
      if_neg (Nat.not_lt.mpr (show _ ≤ (79 :: 75 :: rest).length from hl))]
    exact if_pos hok.symm

theorem verdictSpec_of_short {s : Bytes} (h : s.length < 2) : verdictSpec s = PAM_AUTHINFO_UNAVAIL := by
  rcases s with _ | ⟨_, _ | ⟨_, _⟩⟩
  · rfl
  · rfl
  · exact absurd h (Nat.not_lt.mpr (Nat.le_add_left 2 _))

theorem recvVerdictCore_eq_spec (evs : List SrvEv) : recvVerdictCore evs = verdictSpec (stream evs) := by
  unfold recvVerdictCore
  have h2 := readN_spec 2 evs [] (by decide)
  generalize readN 2 evs [] = r at h2 ⊢
  rcases r with ⟨got, rest⟩ | _ | _
  · obtain ⟨rfl, hle, hrest⟩ := h2
    match hs : stream evs, hle with
    | hi :: lo :: body, _ =>
      replace hrest : stream rest = body := hrest.trans (congrArg (List.drop 2) hs)
      simp only [List.nil_append, List.take_succ_cons, List.take_zero, verdictSpec]
      by_cases hl : min (be16val hi lo) 256 = 0
      · rw [if_pos hl, if_pos hl]
      · rw [if_neg hl, if_neg hl]
        have hb := readN_spec (min (be16val hi lo) 256) rest [] (Nat.pos_of_ne_zero hl)
        rw [hrest] at hb
        generalize readN (min (be16val hi lo) 256) rest [] = r at hb ⊢
        rcases r with ⟨resp, _⟩ | _ | _
        · obtain ⟨rfl, hle', -⟩ := hb
          rw [if_neg (Nat.not_lt.mpr hle'), List.nil_append]
        · exact (if_pos hb).symm
        · exact (if_pos hb).symm
  · exact (verdictSpec_of_short h2).symm
  · exact (verdictSpec_of_short h2).symm

theorem readRounds_le (need : Nat) (evs : List SrvEv)
    (hne : ∀ b, SrvEv.data b ∈ evs → b ≠ []) : readRounds need evs ≤ need + 1 := by
  fun_induction readRounds need evs with
  | case1 | case2 | case3 | case4 | case5 => exact Nat.le_add_left ..
  | case6 need b rest hnle ih =>
    -- a non-empty chunk: one round, and at least one byte less to wait for
    have hb : 0 < b.length := List.length_pos_iff.mpr (hne b List.mem_cons_self)
    have := ih fun c hc => hne c (List.mem_cons_of_mem _ hc)
    omega

theorem getPassword_error {i : Input} {e : Nat} (h : getPassword i = .error e) :
    e = PAM_AUTHTOK_RECOVERY_ERR := by
  unfold getPassword at h
  grind

/-- The reply handling as a function of the delivered byte stream — except that a signal
    interrupting the wait after a zero-length announcement makes the module give up. -/
theorem recvVerdict_eq_spec (evs : List SrvEv) :
    recvVerdict evs = if zeroLenInterrupted evs then PAM_AUTHINFO_UNAVAIL else verdictSpec (stream evs) := by
  rw [recvVerdict, recvVerdictCore_eq_spec]

/-- A reply that ends (silence, close, interrupt) before its two length bytes have arrived: the module
    gives up. -/
theorem recvVerdict_of_short {evs : List SrvEv} (h : (stream evs).length < 2) :
    recvVerdict evs = PAM_AUTHINFO_UNAVAIL := by
  rw [recvVerdict_eq_spec, verdictSpec_of_short h, ite_self]

/-- In the singled-out case the announced length is zero: the reply check itself says
    "authentication error" there, the module says "unavailable" — neither is success. -/
theorem zeroLenInterrupted_core {evs : List SrvEv} (h : zeroLenInterrupted evs = true) :
    recvVerdictCore evs = PAM_AUTH_ERR := by
  unfold zeroLenInterrupted at h
  unfold recvVerdictCore
  split at h
  · rw [Bool.and_eq_true, decide_eq_true_eq] at h
    simp only [h.1, if_true]
  · cases h

/-- A complete reply in one piece followed by the close: nothing is interrupted. -/
theorem zeroLenInterrupted_single (b : Bytes) : zeroLenInterrupted [.data b, .eof] = false := by
  rcases b with _ | ⟨hi, _ | ⟨lo, _ | ⟨x, xs⟩⟩⟩
  · rfl
  · rfl
  · simp [zeroLenInterrupted, readN, nextEv]
  · simp [zeroLenInterrupted, readN, nextEv]

/-- What the module makes of one encoded part `t` of at most 256 bytes followed by the close:
    success exactly when `t` begins with "OK". -/
theorem verdictOfReply_wire (t : Bytes) (h : t.length ≤ Sasl.maxLen) :
    verdictOfReply (be16 t.length ++ t) = if t.take 2 = Sasl.okB then PAM_SUCCESS else PAM_AUTH_ERR := by
  match t, h with
  | [], _ => decide
  | x :: t, h =>
    have hmin : min (x :: t).length 256 = (x :: t).length := Nat.min_eq_left h
    have hpos : ¬ (x :: t).length = 0 := Nat.succ_ne_zero _
    simp only [verdictOfReply, recvVerdict_eq_spec, zeroLenInterrupted_single, Bool.false_eq_true, if_false,
      stream, List.append_nil, be16, List.cons_append, List.nil_append, verdictSpec,
      be16val_be16 (Nat.lt_of_le_of_lt h (by decide)), hmin, hpos, Nat.lt_irrefl, List.take_length]

/-- `pam_sm_authenticate` succeeds only through the reply check: the socket was reachable and the
    reply handling said success (a failed password retrieval has its own error code). -/
theorem authenticate_success {i : Input} (h : (authenticate i).1 = PAM_SUCCESS) :
    i.connectOk = true ∧ recvVerdict i.server = PAM_SUCCESS := by
  unfold authenticate at h
  split at h
  · rename_i e he
    cases getPassword_error he
    cases h
  · split at h
    · cases h
    · exact ⟨by simpa using ‹¬(!i.connectOk) = true›, h⟩

end Whawty.Pam

import Whawty.Model.Path
namespace Whawty.Path

theorem splitSlash_ne_nil (p : Bytes) : splitSlash p ≠ [] := by
  fun_cases splitSlash p <;> simp [*]

theorem splitSlash_noslash (u : Bytes) (h : slash ∉ u) : splitSlash u = [u] := by
  fun_induction splitSlash u <;> simp_all

theorem splitSlash_append (p q : Bytes) : splitSlash (p ++ slash :: q) = splitSlash p ++ splitSlash q := by
  fun_induction splitSlash p <;> simp_all [splitSlash, splitSlash_ne_nil]

theorem cleanStack_append (r : Bool) (st l m : List Bytes) :
    cleanStack r st (l ++ m) = cleanStack r (cleanStack r st l) m := by
  fun_induction cleanStack r st l <;> simp_all [cleanStack]

/-- A plain component: not empty, not "." or "..", no slash. -/
def Plain (u : Bytes) : Prop := u ≠ [] ∧ u ≠ dot ∧ u ≠ dotdot ∧ slash ∉ u

theorem cleanStack_plain (r : Bool) (st : List Bytes) (u : Bytes) (h : Plain u) :
    cleanStack r st [u] = u :: st := by
  obtain ⟨h1, h2, h3, _⟩ := h
  simp [cleanStack, h1, h2, h3]

theorem isRooted_append (base rest : Bytes) (hb : base ≠ []) : isRooted (base ++ rest) = isRooted base := by
  cases base with
  | nil => exact absurd rfl hb
  | cons c _ => rfl

theorem comps_append_plain (base u : Bytes) (hb : base ≠ []) (hu : Plain u) :
    comps (base ++ slash :: u) = comps base ++ [u] := by
  rw [comps, isRooted_append base _ hb, splitSlash_append, splitSlash_noslash u hu.2.2.2, cleanStack_append,
    cleanStack_plain _ _ u hu, List.reverse_cons, comps]

theorem joinSlash_append_single (s : List Bytes) (u : Bytes) :
    joinSlash (s ++ [u]) = if s = [] then u else joinSlash s ++ slash :: u := by
  fun_induction joinSlash s <;> simp_all [joinSlash]

theorem render_append_ext (r : Bool) (s : List Bytes) (u ext : Bytes) :
    render r (s ++ [u]) ++ ext = render r (s ++ [u ++ ext]) := by
  simp only [render, joinSlash_append_single]
  cases r <;> by_cases h : s = [] <;> simp [h]

theorem render_append_single (r : Bool) (s : List Bytes) (u : Bytes) (h : s ≠ []) :
    render r (s ++ [u]) = render r s ++ slash :: u := by
  simp only [render, joinSlash_append_single]
  cases r <;> simp [h]

theorem join_plain (base u : Bytes) (hb : base ≠ []) (hu : Plain u) :
    join2 base u = render (isRooted base) (comps base ++ [u]) := by
  simp [join2, clean, hb, hu.1, isRooted_append base _ hb, comps_append_plain base u hb hu]

theorem clean_eq_render (base : Bytes) (hb : base ≠ []) : clean base = render (isRooted base) (comps base) := by
  simp [clean, hb]

theorem getFilename_plain (base u ext : Bytes) (hb : base ≠ []) (hu : Plain u) :
    getFilename base u ext = render (isRooted base) (comps base ++ [u ++ ext]) := by
  rw [getFilename, join_plain base u hb hu, render_append_ext]

end Whawty.Path

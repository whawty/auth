/-
  With `open scoped Whawty.Persist.Eval`, `cbv` runs a trace whose events are given and whose
  contents are variables through the persistence machine and its two checkers. Every test the
  machine makes is on names, descriptors and inode numbers, which are literals; contents meet only
  where a view is compared with an allowed one. There `v == v` is rewritten to `true` before `==`
  is unfolded; a comparison of two different views with variable contents stays stuck, and
  `_ || true` absorbs it. `++` on variables unfolds into a stuck `match`, the same one in the
  machine's state and in the statement; the empty write of `addTrace` needs `l ++ [] = l`.
  Not `decide` or `rfl`: a `Decidable` instance sticks on the free variables, and the unifier does
  not finish on them (it caches no reduction of a term that has free variables); `simp` with the
  equations of the machine does the same work at several times the cost.
-/
import Whawty.Model.Trace

namespace Whawty.Persist.Eval

attribute [scoped cbv_eval] beq_self_eq_true' Bool.or_true List.append_nil

end Whawty.Persist.Eval

namespace Whawty.Persist

theorem lookup_del {α β} [DecidableEq α] (l : List (α × β)) (k a : α) :
    lookup (del l k) a = if a = k then none else lookup l a := by
  simp only [lookup, del, List.find?_filter]
  split
  · simp_all
  · congr 2
    funext p
    by_cases hp : p.1 = a <;> simp_all

theorem run_concat (s : St) (evs : List Ev) (e : Ev) : run s (evs ++ [e]) = step (run s evs) e := by
  simp [run]

theorem killView_unlink (s : St) (m n : Name) :
    killView (step s (.unlink m)) n = if n = m then .absent else killView s n := by
  by_cases h : n = m <;> simp [killView, step, lookup_del, h]

end Whawty.Persist

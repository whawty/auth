import Whawty.Model.Policy
namespace Whawty.Policy

theorem spaceLen_le (s : Bytes) : spaceLen s ≤ s.length := by
  fun_cases spaceLen s <;> simp <;> omega

theorem spaceLen_zero_head (c : Byte) (rest : Bytes) (h : spaceLen (c :: rest) = 0) : isSpace c = false := by
  rw [← Bool.not_eq_true]
  intro hs
  simp only [isSpace, Bool.or_eq_true, decide_eq_true_eq] at hs
  -- on each of the six ASCII blanks `spaceLen` evaluates to 1
  rcases hs with ((((rfl | rfl) | rfl) | rfl) | rfl) | rfl <;> cases h

/-- Fuel beyond the length of the input is never used. -/
theorem fieldsAux_fuel (n k : Nat) (s cur : Bytes) (h : s.length ≤ n) :
    fieldsAux (n + k) s cur = fieldsAux n s cur := by
  induction n generalizing s cur with
  | zero =>
    obtain rfl : s = [] := List.eq_nil_of_length_eq_zero (by omega)
    cases k <;> rfl
  | succ n ih =>
    rw [Nat.add_right_comm]
    cases s with
    | nil => rfl
    | cons c rest =>
      have hk := spaceLen_le (c :: rest)
      simp only [List.length_cons] at h hk
      simp only [fieldsAux]
      split
      · exact ih rest _ (by omega)
      · rw [ih _ [] (by simp only [List.length_drop, List.length_cons]; omega)]

theorem fieldsAux_words (n : Nat) (s cur : Bytes) (hc : ∀ b ∈ cur, isSpace b = false) :
    ∀ f ∈ fieldsAux n s cur, f ≠ [] ∧ ∀ b ∈ f, isSpace b = false := by
  have word (cur : Bytes) (hc : ∀ b ∈ cur, isSpace b = false) (h : ¬ cur.isEmpty = true) :
      cur.reverse ≠ [] ∧ ∀ b ∈ cur.reverse, isSpace b = false :=
    ⟨by simpa using h, by simpa using hc⟩
  fun_induction fieldsAux n s cur with
  | case1 | case3 => simp
  | case2 _ cur h | case4 _ cur h => simpa using word cur hc h
  | case5 _ _ _ _ _ h0 ih => exact ih (List.forall_mem_cons.mpr ⟨spaceLen_zero_head _ _ h0, hc⟩)
  | case6 _ _ _ _ _ _ _ ih => exact ih nofun
  | case7 _ _ _ cur _ _ h ih => exact List.forall_mem_cons.mpr ⟨word cur hc h, ih nofun⟩

theorem guardedWrite_eq {σ : Type} (p : PolicyCfg) (z : Estimate) (st : σ) (op : Option σ) :
    guardedWrite p z st op = if policyOk p z then (op, op.getD st) else (none, st) := by
  unfold guardedWrite
  cases policyOk p z <;> cases op <;> rfl

end Whawty.Policy

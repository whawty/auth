import Whawty.Model.Record
namespace Whawty.Rec

theorem cut_eq_some_iff {sep : Byte} {s a b : Bytes} :
    cut sep s = some (a, b) ↔ s = a ++ sep :: b ∧ sep ∉ a := by
  induction s generalizing a with
  | nil => simp [cut]
  | cons c s ih =>
    rw [cut]
    split
    · subst c; cases a <;> simp <;> grind
    · cases a <;> simp [ih] <;> grind

theorem cut_eq_none_iff {sep : Byte} {s : Bytes} : cut sep s = none ↔ sep ∉ s := by
  induction s with
  | nil => simp [cut]
  | cons c s ih => by_cases hc : c = sep <;> simp [cut, hc, ih, Ne.symm]

theorem cut_append {sep : Byte} {a b : Bytes} (h : sep ∉ a) : cut sep (a ++ sep :: b) = some (a, b) :=
  cut_eq_some_iff.2 ⟨rfl, h⟩

theorem cut_none {sep : Byte} {a : Bytes} (h : sep ∉ a) : cut sep a = none := cut_eq_none_iff.2 h

theorem firstLine_append {a rest : Bytes} (h : nl ∉ a) : firstLine (a ++ nl :: rest) = a ++ [nl] := by
  induction a with
  | nil => simp [firstLine]
  | cons c a ih =>
    simp only [List.mem_cons, not_or] at h
    simp [firstLine, Ne.symm h.1, ih h.2]

theorem firstLine_no_nl {a : Bytes} (h : nl ∉ a) : firstLine a = a := by
  induction a with
  | nil => rfl
  | cons c a ih =>
    simp only [List.mem_cons, not_or] at h
    simp [firstLine, Ne.symm h.1, ih h.2]

theorem afterFirstLine_append {a rest : Bytes} (h : nl ∉ a) : afterFirstLine (a ++ nl :: rest) = rest := by
  induction a with
  | nil => simp [afterFirstLine]
  | cons c a ih =>
    simp only [List.mem_cons, not_or] at h
    simp [afterFirstLine, Ne.symm h.1, ih h.2]

theorem digitsVal_append (a b : Bytes) (acc : Nat) :
    digitsVal (a ++ b) acc = (digitsVal a acc).bind (digitsVal b) := by
  induction a generalizing acc with
  | nil => simp [digitsVal]
  | cons c a ih =>
    simp only [List.cons_append, digitsVal]
    split
    · exact ih _
    · rfl

theorem digitsVal_all_digits (t : Bytes) (acc n : Nat) (h : digitsVal t acc = some n) :
    ∀ b ∈ t, isDigit b = true := by
  induction t generalizing acc with
  | nil => simp
  | cons c rest ih =>
    simp only [digitsVal] at h
    split at h
    · rename_i hc
      simpa [hc] using ih _ h
    · simp at h

theorem parseUint64_eq_some_iff (t : Bytes) (n : Nat) :
    parseUint64 t = some n ↔ t ≠ [] ∧ digitsVal t 0 = some n ∧ n < 2 ^ 64 := by
  unfold parseUint64
  grind

theorem digit_byte : ∀ {d : Nat}, d < 10 →
    isDigit (UInt8.ofNat (48 + d)) = true ∧ (UInt8.ofNat (48 + d)).toNat - 48 = d := by decide

/-- `decNat` peels off the last digit, so the digits before it are read from 0 as well. -/
theorem digitsVal_decNat (n : Nat) : digitsVal (decNat n) 0 = some n := by
  fun_induction decNat n with
  | case1 n h =>
    obtain ⟨h1, h2⟩ := digit_byte h
    simp only [digitsVal, h1, h2, if_true, Nat.zero_mul, Nat.zero_add]
  | case2 n h ih =>
    obtain ⟨h1, h2⟩ := digit_byte (Nat.mod_lt n (by decide : 0 < 10))
    simp only [digitsVal_append, ih, Option.bind_some, digitsVal, h1, h2, if_true, Nat.div_add_mod']

theorem decNat_ne_nil (n : Nat) : decNat n ≠ [] := by
  rw [decNat]; split <;> simp

theorem decNat_digits (n : Nat) : ∀ c ∈ decNat n, isDigit c = true := by
  fun_induction decNat n with
  | case1 n h => simpa using (digit_byte h).1
  | case2 n h ih =>
    simp only [List.mem_append, List.mem_singleton]
    rintro c (hc | rfl)
    · exact ih c hc
    · exact (digit_byte (Nat.mod_lt _ (by omega))).1

theorem isDigit_plain {c : Byte} (h : isDigit c = true) : c ≠ colon ∧ c ≠ nl ∧ c ≠ 43 ∧ c ≠ 45 := by
  refine ⟨?_, ?_, ?_, ?_⟩ <;> (rintro rfl; revert h; decide)

theorem decNat_plain (n : Nat) : ∀ c ∈ decNat n, c ≠ colon ∧ c ≠ nl := fun c hc =>
  ⟨(isDigit_plain (decNat_digits n c hc)).1, (isDigit_plain (decNat_digits n c hc)).2.1⟩

theorem decInt_plain (i : Int) : ∀ c ∈ decInt i, c ≠ colon ∧ c ≠ nl := by
  cases i with
  | ofNat n => exact decNat_plain n
  | negSucc n =>
    simp only [decInt, List.forall_mem_cons]
    exact ⟨by decide, decNat_plain _⟩

theorem parseUint64_decNat {n : Nat} (h : n < 2 ^ 64) : parseUint64 (decNat n) = some n := by
  simp [parseUint64, decNat_ne_nil, digitsVal_decNat, h]

theorem parseInt64_decInt {i : Int} (h1 : -(2 ^ 63 : Int) ≤ i) (h2 : i < 2 ^ 63) :
    parseInt64 (decInt i) = some i := by
  cases i with
  | ofNat n =>
    -- the first digit is neither sign
    cases hd : decNat n with
    | nil => exact absurd hd (decNat_ne_nil n)
    | cons c rest =>
      have hp := isDigit_plain (decNat_digits n c (by simp [hd]))
      have hn : n < 2 ^ 63 := by have : ((n : Nat) : Int) < 2 ^ 63 := h2; omega
      simp only [decInt, hd, parseInt64, hp.2.2.1, hp.2.2.2, if_false]
      rw [← hd, parseUint64_decNat (by omega)]
      simp [hn]
  | negSucc n =>
    have hn : n + 1 ≤ 2 ^ 63 := by have : -(2 ^ 63 : Int) ≤ Int.negSucc n := h1; omega
    simp only [decInt, parseInt64, (by decide : (45 : Byte) ≠ 43), if_false, if_true,
      parseUint64_decNat (show n + 1 < 2 ^ 64 by omega), hn]
    rfl

end Whawty.Rec

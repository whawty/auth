import Whawty.Lemmas.Record
import Whawty.Lemmas.Base64
namespace Whawty.Rec

/-! The record line: what `writeHashStr` formats, `readHashStr` and the hashers read back. Apart from
`Lemmas/Record.lean` (cutting and decimal numbers, which the session tokens, the frontends, the policy
parser and the ties use as well) because this is the part that rests on the Base64 round trip. -/

theorem hashStrOf_plain (salt hash : Bytes) : ∀ c ∈ hashStrOf salt hash, c ≠ nl := by
  simp only [hashStrOf, List.mem_append, List.mem_cons]
  rintro c (h | rfl | h)
  · exact (B64.encode_chars salt _ h).1
  · decide
  · exact (B64.encode_chars hash _ h).1

/-- The hashers decode what `Generate` produced, trailing newline included. -/
theorem decodeSaltHash_hashStrOf (salt hash : Bytes) :
    decodeSaltHash (hashStrOf salt hash ++ [nl]) = some (salt, hash) := by
  have h1 : colon ∉ B64.encode salt := fun h => (B64.encode_chars salt _ h).2.2 rfl
  have h2 : (B64.encode hash ++ [nl]).contains colon = false := by
    simpa [nl, colon] using fun h => (B64.encode_chars hash _ h).2.2 rfl
  simp only [decodeSaltHash, split2, hashStrOf, List.append_assoc, List.cons_append, cut_append h1, h2,
    Bool.false_eq_true, if_false]
  rw [B64.decode_encode, B64.decode_encode_append hash [nl] (by simp [nl])]

/-- No newline before the one that ends the line `writeHashStr` writes. -/
theorem formatLine_body_no_nl (f : Bytes) (ts : Int) (pid : Nat) (salt hash : Bytes)
    (hf : ∀ c ∈ f, c ≠ colon ∧ c ≠ nl) :
    nl ∉ f ++ colon :: (decInt ts ++ colon :: (decNat pid ++ colon :: hashStrOf salt hash)) := by
  simp only [List.mem_append, List.mem_cons]
  rintro (h | h | h | h | h | h | h)
  · exact (hf _ h).2 rfl
  · revert h; decide
  · exact (decInt_plain ts _ h).2 rfl
  · revert h; decide
  · exact (decNat_plain pid _ h).2 rfl
  · revert h; decide
  · exact hashStrOf_plain salt hash _ h rfl

/-- `readHashStr` reads back exactly what `writeHashStr` formatted, whatever follows the line. -/
theorem readHead_formatLine (f : Bytes) (ts : Int) (pid : Nat) (salt hash rest : Bytes)
    (hf : ∀ c ∈ f, c ≠ colon ∧ c ≠ nl) (h1 : -(2 ^ 63 : Int) ≤ ts) (h2 : ts < 2 ^ 63) (hp : pid < 2 ^ 64) :
    readHead (formatLine f ts pid (hashStrOf salt hash) ++ rest) =
      some ⟨f, ts, pid, hashStrOf salt hash ++ [nl]⟩ := by
  have hline : firstLine (formatLine f ts pid (hashStrOf salt hash) ++ rest) =
      f ++ colon :: (decInt ts ++ colon :: (decNat pid ++ colon :: (hashStrOf salt hash ++ [nl]))) := by
    have := firstLine_append (rest := rest) (formatLine_body_no_nl f ts pid salt hash hf)
    simpa only [formatLine, List.append_assoc, List.cons_append, List.nil_append] using this
  have c1 : colon ∉ f := fun h => (hf _ h).1 rfl
  have c2 : colon ∉ decInt ts := fun h => (decInt_plain ts _ h).1 rfl
  have c3 : colon ∉ decNat pid := fun h => (decNat_plain pid _ h).1 rfl
  simp only [readHead, hline, splitN4, cut_append c1, cut_append c2, cut_append c3,
    parseInt64_decInt h1 h2, parseUint64_decNat hp]

theorem afterFirstLine_formatLine (f : Bytes) (ts : Int) (pid : Nat) (salt hash rest : Bytes)
    (hf : ∀ c ∈ f, c ≠ colon ∧ c ≠ nl) :
    afterFirstLine (formatLine f ts pid (hashStrOf salt hash) ++ rest) = rest := by
  have := afterFirstLine_append (rest := rest) (formatLine_body_no_nl f ts pid salt hash hf)
  simpa only [formatLine, List.append_assoc, List.cons_append, List.nil_append] using this

end Whawty.Rec

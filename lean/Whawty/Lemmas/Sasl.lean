import Whawty.Model.Sasl
import Whawty.Lemmas.Basic
namespace Whawty.Sasl

/-! Everything is reduced to `decodePure` on the whole stream and to the prefix relation `<+:`: a token is an
encoded part at the front of the buffer (`scan_eq_tok_iff`), the part decoder succeeds exactly on streams that
begin with an encoding (`decodePure_eq_some_iff`), and the scanner loop over any fragmentation computes
`decodePure` of the concatenation (`decodeScan_eq_decodePure`). -/

theorem drop_be16_append (p r : Bytes) : (be16 p.length ++ p ++ r).drop (p.length + 2) = r :=
  List.drop_left' (by rw [List.length_append, length_be16, Nat.add_comm])

theorem scan_cons_cons (hi lo : Byte) (rest : Bytes) (e : Bool) :
    scan (hi :: lo :: rest) e =
      if be16val hi lo > maxLen then .err
      else if rest.length < be16val hi lo then (if e then .err else .more)
      else .tok (be16val hi lo + 2) (rest.take (be16val hi lo)) := rfl

theorem scan_cons_cons_eq_tok_iff {hi lo : Byte} {rest : Bytes} {e : Bool} {adv : Nat} {p : Bytes} :
    scan (hi :: lo :: rest) e = .tok adv p ↔
      be16val hi lo ≤ maxLen ∧ be16val hi lo ≤ rest.length ∧ adv = be16val hi lo + 2 ∧
        p = rest.take (be16val hi lo) := by
  rw [scan_cons_cons]
  generalize be16val hi lo = n
  grind

/-- A token is exactly an encoded part within the limit at the front of the buffer; whether the
    stream has ended plays no role. -/
theorem scan_eq_tok_iff {b : Bytes} {e : Bool} {adv : Nat} {p : Bytes} :
    scan b e = .tok adv p ↔ p.length ≤ maxLen ∧ adv = p.length + 2 ∧ be16 p.length ++ p <+: b := by
  constructor
  · intro h
    rcases b with _ | ⟨hi, _ | ⟨lo, rest⟩⟩
    · cases e <;> cases h
    · cases e <;> cases h
    obtain ⟨h1, h2, rfl, rfl⟩ := scan_cons_cons_eq_tok_iff.mp h
    have hl := List.length_take_of_le h2
    refine ⟨by rw [hl]; exact h1, by rw [hl], rest.drop (be16val hi lo), ?_⟩
    rw [hl, be16_be16val]
    exact congrArg (hi :: lo :: ·) (List.take_append_drop ..)
  · rintro ⟨hl, rfl, rest, rfl⟩
    have h3 : p.length < 65536 := Nat.lt_of_le_of_lt hl (by decide)
    refine scan_cons_cons_eq_tok_iff.mpr ?_
    rw [be16val_be16 h3]
    exact ⟨hl, by simp, rfl, by simp⟩

theorem scan_overlimit (hi lo : Byte) (rest : Bytes) (e : Bool) (h : be16val hi lo > maxLen) :
    scan (hi :: lo :: rest) e = .err := by
  rw [scan_cons_cons, if_pos h]

theorem scan_false_eq_err {b : Bytes} (h : scan b false = .err) :
    ∃ hi lo rest, b = hi :: lo :: rest ∧ be16val hi lo > maxLen := by
  rcases b with _ | ⟨hi, _ | ⟨lo, rest⟩⟩
  · cases h
  · cases h
  refine ⟨hi, lo, rest, rfl, Decidable.by_contra fun h1 => ?_⟩
  rw [scan_cons_cons, if_neg h1] at h
  split at h <;> cases h

/-- A token found without EOF is the token found at EOF. -/
theorem scan_tok_atEOF {b : Bytes} {adv : Nat} {p : Bytes}
    (h : scan b false = .tok adv p) : scan b true = .tok adv p :=
  scan_eq_tok_iff.mpr (scan_eq_tok_iff.mp h)

theorem scan_false_ne_eof (b : Bytes) : scan b false ≠ .eof := by
  fun_cases scan b false <;> simp_all

theorem length_be16_append (p r : Bytes) : (be16 p.length ++ p ++ r).length = p.length + 2 + r.length := by
  rw [List.length_append, List.length_append, length_be16, Nat.add_comm 2]

/-- Decoding a stream that begins with an encoded part: that part, then what the rest decodes to. -/
theorem decodePure_succ_append {p : Bytes} (hl : p.length ≤ maxLen) (k : Nat) (r : Bytes) :
    decodePure (k + 1) (be16 p.length ++ p ++ r) =
      (decodePure k r).map fun (ps, n) => (p :: ps, p.length + 2 + n) := by
  simp only [decodePure, scan_eq_tok_iff.mpr ⟨hl, rfl, r, rfl⟩, drop_be16_append]

/-- A token found before the end of the stream stands: whatever is read later, it is the part the
    decoder takes next. -/
theorem decodePure_append_of_tok {buf : Bytes} {adv : Nat} {p : Bytes} (h : scan buf false = .tok adv p)
    (k : Nat) (rest : Bytes) :
    decodePure (k + 1) (buf ++ rest) =
      (decodePure k (buf.drop adv ++ rest)).map fun (ps, n) => (p :: ps, adv + n) := by
  obtain ⟨hl, rfl, r, rfl⟩ := scan_eq_tok_iff.mp h
  rw [List.append_assoc, decodePure_succ_append hl, drop_be16_append]

theorem decodePure_append_of_err {buf : Bytes} (h : scan buf false = .err) (k : Nat) (rest : Bytes) :
    decodePure (k + 1) (buf ++ rest) = none := by
  obtain ⟨hi, lo, r, rfl, hgt⟩ := scan_false_eq_err h
  simp only [decodePure, List.cons_append, scan_overlimit _ _ _ _ hgt]

theorem encodeParts_cons_of_le {p : Bytes} (h : p.length ≤ maxLen) (ps : List Bytes) :
    encodeParts (p :: ps) = (encodeParts ps).map fun r => be16 p.length ++ p ++ r := by
  have : ¬ p.length > 65535 := Nat.not_lt.mpr (Nat.le_trans h (by decide))
  simp only [encodeParts, this, if_false]

theorem encodeParts_some_of_le {ps : List Bytes} (h : ∀ p ∈ ps, p.length ≤ maxLen) :
    ∃ s, encodeParts ps = some s := by
  induction ps with
  | nil => exact ⟨[], rfl⟩
  | cons p ps ih =>
    obtain ⟨s, hs⟩ := ih fun q hq => h q (List.mem_cons_of_mem p hq)
    exact ⟨_, by rw [encodeParts_cons_of_le (h p List.mem_cons_self), hs]; rfl⟩

/-- The part decoder succeeds exactly on the streams that begin with the encoding of `k` parts
    within the limit; it returns those parts and the length of their encoding. -/
theorem decodePure_eq_some_iff {k : Nat} {s : Bytes} {ps : List Bytes} {n : Nat} :
    decodePure k s = some (ps, n) ↔
      ps.length = k ∧ (∀ p ∈ ps, p.length ≤ maxLen) ∧
        ∃ enc, encodeParts ps = some enc ∧ enc <+: s ∧ n = enc.length := by
  induction k generalizing s ps n with
  | zero =>
    constructor
    · intro h
      cases h
      exact ⟨rfl, nofun, [], rfl, List.nil_prefix, rfl⟩
    · rintro ⟨hk, -, enc, henc, -, rfl⟩
      cases List.length_eq_zero_iff.mp hk
      cases henc
      rfl
  | succ k ih =>
    constructor
    · intro h
      cases hs : scan s true with
      | tok adv p =>
        obtain ⟨hl, rfl, r, rfl⟩ := scan_eq_tok_iff.mp hs
        rw [decodePure_succ_append hl, Option.map_eq_some_iff] at h
        obtain ⟨⟨ps', n'⟩, hd, heq⟩ := h
        cases heq
        obtain ⟨hk, hlen, enc, henc, ⟨t, rfl⟩, rfl⟩ := ih.mp hd
        refine ⟨congrArg (· + 1) hk, List.forall_mem_cons.mpr ⟨hl, hlen⟩, be16 p.length ++ p ++ enc,
          ?_, ⟨t, List.append_assoc ..⟩, (length_be16_append p enc).symm⟩
        rw [encodeParts_cons_of_le hl, henc]
        rfl
      | _ => simp [decodePure, hs] at h
    · rintro ⟨hk, hlen, enc, henc, ⟨t, rfl⟩, rfl⟩
      rcases ps with _ | ⟨p, ps⟩
      · cases hk
      have hl := hlen p List.mem_cons_self
      rw [encodeParts_cons_of_le hl, Option.map_eq_some_iff] at henc
      obtain ⟨enc', henc', rfl⟩ := henc
      rw [List.append_assoc _ enc' t, decodePure_succ_append hl, length_be16_append,
        ih.mpr ⟨Nat.succ.inj hk, fun q hq => hlen q (List.mem_cons_of_mem p hq), enc', henc', ⟨t, rfl⟩, rfl⟩]
      rfl

/-- Fragment independence of the scanner loop: the result depends only on the concatenation
    of what is buffered and everything that will be read. -/
theorem decodeChunks_eq_decodePure (k : Nat) (buf : Bytes) (cs : List Bytes) :
    decodeChunks k buf cs = decodePure k (buf ++ cs.flatten) := by
  fun_induction decodeChunks k buf cs with
  | case1 => rfl
  | case2 k buf adv p h ih =>
    simp only [List.flatten_nil, List.append_nil] at ih ⊢
    simp only [decodePure, h, ih]
  | case3 k buf h =>
    simp only [List.flatten_nil, List.append_nil, decodePure]
  | case4 k buf c cs adv p h ih => rw [ih, decodePure_append_of_tok h]
  | case5 k buf c cs h => rw [decodePure_append_of_err h]
  | case6 k buf c cs h1 h2 ih => rw [ih, List.flatten_cons, List.append_assoc]

theorem stallFree_mono {e e' : Nat} {cs : List Bytes} (hle : e' ≤ e) (h : stallFree e cs = true) :
    stallFree e' cs = true := by
  fun_induction stallFree e cs generalizing e' with
  | case1 => rfl
  | case2 e c cs hc ih =>
    rw [Bool.and_eq_true, decide_eq_true_eq] at h
    rw [stallFree, if_pos hc, Bool.and_eq_true, decide_eq_true_eq]
    exact ⟨Nat.le_trans (Nat.succ_le_succ hle) h.1, ih (Nat.succ_le_succ hle) h.2⟩
  | case3 e c cs hc ih =>
    rw [stallFree, if_neg hc]
    exact h

/-- The scanner loop as it is against the whole stream: its guard against a stalled reader can only
    turn a result into an error, and does not even do that while the reader makes progress. -/
theorem decodeScan_eq_decodePure (k : Nat) (buf : Bytes) (cs : List Bytes) (e : Nat)
    (h : stallFree e cs = true ∨ (decodeScan k buf cs e).isSome = true) :
    decodeScan k buf cs e = decodePure k (buf ++ cs.flatten) := by
  fun_induction decodeScan k buf cs e with
  | case1 => rfl
  | case2 k buf e adv p hs ih =>
    simp only [List.flatten_nil, List.append_nil] at ih ⊢
    simp only [decodePure, hs, ih (.inl rfl)]
  | case3 k buf e hs =>
    simp only [List.flatten_nil, List.append_nil, decodePure]
  | case4 k buf c cs e adv p hs ih =>
    -- a token restarts the count of zero-length reads at 0
    rw [decodePure_append_of_tok hs, ih (h.imp (stallFree_mono (Nat.zero_le e)) (by simp))]
  | case5 k buf c cs e hs => rw [decodePure_append_of_err hs]
  | case6 k buf c cs e hc hgt h1 h2 =>
    -- the guard trips: the reader is not stall-free and the loop returns no value
    simp [stallFree, hc, Nat.not_le.mpr hgt] at h
  | case7 k buf c cs e hc hle h1 h2 ih =>
    cases List.isEmpty_iff.mp hc
    exact ih (h.imp_left fun h => (by simpa [stallFree] using h : _ ∧ _).2)
  | case8 k buf c cs e hc h1 h2 ih =>
    rw [ih (h.imp_left fun h => by simpa [stallFree, hc] using h), List.flatten_cons, List.append_assoc]

/-- A reader that makes no progress: while the scanner waits for more data, the 101st
    zero-length read in a row ends the decoding with an error, whatever would follow. -/
theorem decodeScan_stalled (k : Nat) (buf : Bytes) (rest : List Bytes) (hm : scan buf false = .more)
    (n e : Nat) (h1 : e ≤ maxEmptyReads) (h2 : e + n > maxEmptyReads) :
    decodeScan (k + 1) buf (List.replicate n [] ++ rest) e = none := by
  induction n generalizing e with
  | zero => omega
  | succ n ih =>
    rw [List.replicate_succ, List.cons_append]
    unfold decodeScan
    simp only [hm, List.isEmpty_nil, if_true]
    split
    · rfl
    · exact ih (e + 1) (by omega) (by omega)

theorem stallFree_of_nonempty (cs : List Bytes) (h : ∀ c ∈ cs, c ≠ []) (e : Nat) : stallFree e cs = true := by
  induction cs generalizing e with
  | nil => rfl
  | cons c cs ih =>
    rw [stallFree, if_neg (by simpa using h c List.mem_cons_self)]
    exact ih (fun x hx => h x (List.mem_cons_of_mem c hx)) 0

namespace Request

theorem encode_eq_some_iff {r : Request} {enc : Bytes} :
    r.encode = some enc ↔
      (r.login.length ≤ maxLen ∧ r.password.length ≤ maxLen ∧ r.service.length ≤ maxLen ∧
        r.realm.length ≤ maxLen) ∧
      encodeParts [r.login, r.password, r.service, r.realm] = some enc := by
  simp only [Request.encode, gt_iff_lt, ← Nat.not_le, ite_not, Option.ite_none_right_eq_some, and_assoc]

theorem ofParts_eq_some_iff {ps : List Bytes} {r : Request} :
    ofParts ps = some r ↔
      ps = [r.login, r.password, r.service, r.realm] ∧ r.login ≠ [] ∧ r.password ≠ [] := by
  constructor
  · intro h
    unfold ofParts at h
    split at h
    · split at h
      · cases h
      · cases h
        simp_all
    · cases h
  · rintro ⟨rfl, hl, hp⟩
    simp [ofParts, hl, hp]

/-- `Request.decode` inverts `Request.encode` at the front of the stream: it returns `r` and `n`
    exactly when login and password are non-empty and the stream begins with the `n` bytes that
    `r` encodes to. -/
theorem decode_eq_some_iff {s : Bytes} {r : Request} {n : Nat} :
    decode s = some (r, n) ↔
      r.login ≠ [] ∧ r.password ≠ [] ∧ ∃ enc, r.encode = some enc ∧ enc <+: s ∧ n = enc.length := by
  constructor
  · intro h
    unfold decode at h
    split at h
    · rename_i ps n' hd
      simp only [Option.map_eq_some_iff, Prod.mk.injEq] at h
      obtain ⟨r', hr, rfl, rfl⟩ := h
      obtain ⟨rfl, hl, hp⟩ := ofParts_eq_some_iff.mp hr
      obtain ⟨-, hlen, enc, henc, hpre, rfl⟩ := decodePure_eq_some_iff.mp hd
      simp only [List.forall_mem_cons, List.not_mem_nil, false_imp_iff, implies_true, and_true] at hlen
      exact ⟨hl, hp, enc, encode_eq_some_iff.mpr ⟨hlen, henc⟩, hpre, rfl⟩
    · cases h
  · rintro ⟨hl, hp, enc, henc, hpre, rfl⟩
    obtain ⟨hlen, henc⟩ := encode_eq_some_iff.mp henc
    have hd : decodePure 4 s = some ([r.login, r.password, r.service, r.realm], enc.length) := by
      refine decodePure_eq_some_iff.mpr ⟨rfl, ?_, enc, henc, hpre, rfl⟩
      simpa only [List.forall_mem_cons, List.not_mem_nil, false_imp_iff, implies_true, and_true] using hlen
    simp only [decode, hd, ofParts_eq_some_iff.mpr ⟨rfl, hl, hp⟩, Option.map_some]

end Request

namespace Response

theorem encode_eq (r : Response) :
    r.encode = if r.text.length ≤ 65535 then some (be16 r.text.length ++ r.text) else none := by
  simp only [encode, encodeParts, gt_iff_lt, ← Nat.not_le, ite_not, Option.map_some, List.append_nil]

theorem encode_of_le {r : Response} (h : r.text.length ≤ maxLen) :
    r.encode = some (be16 r.text.length ++ r.text) := by
  rw [encode_eq, if_pos (Nat.le_trans h (by decide))]

theorem text_length (r : Response) :
    r.text.length = if r.message = [] then 2 else r.message.length + 3 := by
  obtain ⟨res, msg⟩ := r
  cases res <;> cases msg <;> rfl

theorem lt_text_length {r : Response} {n : Nat} (h : n < r.message.length) : n + 3 < r.text.length := by
  rw [text_length, if_neg (List.ne_nil_of_length_pos (Nat.zero_lt_of_lt h))]
  exact Nat.add_lt_add_right h 3

theorem text_take2 (r : Response) : r.text.take 2 = if r.result then okB else noB := by
  obtain ⟨res, msg⟩ := r
  cases res <;> rfl

theorem ofText_text (r : Response) : ofText r.text = some r := by
  obtain ⟨res, msg⟩ := r
  cases res <;> cases msg <;> rfl

theorem ofText_message {t : Bytes} {q : Response} (h : ofText t = some q) : q.message = t.drop 3 := by
  unfold ofText at h
  grind

/-- What the response decoder makes of the response encoder's output (followed by anything): the
    response itself while its text fits the part limit of the decoder, an error beyond. -/
theorem decode_encode {r : Response} {enc : Bytes} (h : r.encode = some enc) (rest : Bytes) :
    decode (enc ++ rest) = if r.text.length ≤ maxLen then some r else none := by
  rw [encode_eq] at h
  split at h
  · rename_i h16
    cases h
    split
    · rename_i hl
      rw [decode, decodePure_succ_append hl]
      exact ofText_text r
    · rename_i hl
      simp only [decode, decodePure, be16, List.cons_append, List.nil_append,
        scan_overlimit _ _ _ _ (by rw [be16val_be16 (Nat.lt_succ_of_le h16)]; omega)]
  · cases h

end Response

end Whawty.Sasl

import Whawty.Model.SaslServer
import Whawty.Lemmas.Sasl
namespace Whawty.SaslServer
open Whawty.Sasl

/-- The verdict of the response the server builds: positive only for a decoded request that the
    callback approved without error; clipping the message does not touch it. -/
theorem response_result (clip : Bool) (dec : Option (Request × Nat)) (cb : Request → CbOutcome) (t : Bytes) :
    (response clip dec cb t).result =
      match dec with
      | some (q, _) => (cb q).ok && (cb q).err.isNone
      | none => false := by
  unfold response
  cases clip <;> cases dec with
  | none => rfl
  | some qn => cases h : (cb qn.1).err <;> simp [h]

/-- Without clipping, the response to a request the callback answered without error carries the
    callback's message, however long. -/
theorem response_unclipped {cb : Request → CbOutcome} {q : Request} (he : (cb q).err = none) (n : Nat)
    (t : Bytes) : response false (some (q, n)) cb t = ⟨(cb q).ok, (cb q).msg⟩ := by
  simp [response, he]

theorem clipped_text_le (dec : Option (Request × Nat)) (cb : Request → CbOutcome) (t : Bytes) :
    (response true dec cb t).text.length ≤ maxLen := by
  rw [Response.text_length]
  have : (response true dec cb t).message.length ≤ maxMsg := List.length_take_le ..
  split
  · decide
  · exact Nat.add_le_add_right this 3

theorem mem_replies {clip : Bool} {cs : List Bytes} {cb : Request → CbOutcome} {t reply : Bytes}
    (h : reply ∈ (handle clip cs cb t).replies) :
    (response clip (Request.decodeChunked cs) cb t).encode = some reply := by
  simp only [handle] at h
  split at h
  · rwa [List.mem_singleton.mp h]
  · cases h

end Whawty.SaslServer

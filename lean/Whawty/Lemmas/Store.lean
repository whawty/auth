import Whawty.Model.Store
import Whawty.Lemmas.RecordLine
namespace Whawty.Store
open Whawty.Rec

/-! The directory as a finite map (`get` / `has` under `put` / `del`: `simp` lemmas), the names of its
entries, and one characterisation of each operation of `Model/Store.lean` in those terms; what
`writeHashStr` does to the directory has a name of its own, `Installed`. -/

@[simp] theorem get_nil (n : Bytes) : get [] n = none := rfl

theorem get_cons (e : Bytes × Node) (d : Dir) (n : Bytes) :
    get (e :: d) n = if e.1 = n then some e.2 else get d n := by
  by_cases h : e.1 = n <;> simp [get, List.find?, h]

@[simp] theorem get_del (d : Dir) (n m : Bytes) : get (del d n) m = if m = n then none else get d m := by
  induction d with
  | nil => simp [del]
  | cons e d ih =>
    rw [del, List.filter_cons] at *
    by_cases h : e.1 = n <;> by_cases h' : e.1 = m <;> simp_all [get_cons]

@[simp] theorem get_put (d : Dir) (n m : Bytes) (x : Node) :
    get (put d n x) m = if m = n then some x else get d m := by
  by_cases h : m = n <;> simp [put, get_cons, h, Ne.symm]

theorem get_append_single (d : Dir) (n m : Bytes) (x : Node) :
    get (d ++ [(n, x)]) m = (get d m).or (if m = n then some x else none) := by
  induction d with
  | nil => simp [get_cons, eq_comm]
  | cons e d ih => by_cases h : e.1 = m <;> simp [get_cons, h, ih]

theorem has_eq (d : Dir) (n : Bytes) : has d n = (get d n).isSome := rfl

@[simp] theorem has_put (d : Dir) (n m : Bytes) (x : Node) :
    has (put d n x) m = (decide (m = n) || has d m) := by
  by_cases h : m = n <;> simp [has_eq, h]

@[simp] theorem has_del (d : Dir) (n m : Bytes) : has (del d n) m = (!decide (m = n) && has d m) := by
  by_cases h : m = n <;> simp [has_eq, h]

theorem get_some_mem {d : Dir} {n : Bytes} {x : Node} (h : get d n = some x) : (n, x) ∈ d := by
  obtain ⟨e, he, rfl⟩ := Option.map_eq_some_iff.1 h
  obtain rfl : e.1 = n := by simpa using List.find?_some he
  exact List.mem_of_find?_eq_some he

theorem has_iff_mem {d : Dir} {n : Bytes} : has d n = true ↔ ∃ x, (n, x) ∈ d := by
  simp [has, get]

theorem mem_del {d : Dir} {n : Bytes} {e : Bytes × Node} : e ∈ del d n ↔ e ∈ d ∧ e.1 ≠ n := by
  simp [del]

theorem mem_put {d : Dir} {n : Bytes} {x : Node} {e : Bytes × Node} :
    e ∈ put d n x ↔ e = (n, x) ∨ (e ∈ d ∧ e.1 ≠ n) := by
  simp [put, mem_del]

/-! ### Entry names

Every name the operations compute is `fileName u a` or `tmpName`, and `simp` decides equations
between those. The model and the property statements also spell names out (`u ++ adminExt`):
`append_adminExt`, `append_userExt` bring such a name to `fileName` (not `simp` lemmas: together
with an unfolded `fileName` they loop). -/

theorem append_adminExt (u : Bytes) : u ++ adminExt = fileName u true := rfl
theorem append_userExt (u : Bytes) : u ++ userExt = fileName u false := rfl

@[simp] theorem fileName_inj {u v : Bytes} {a b : Bool} : fileName u a = fileName v b ↔ u = v ∧ a = b := by
  constructor
  · intro h
    -- the two extensions end in different letters
    have hlast := congrArg List.getLast? h
    cases a <;> cases b <;> simp [fileName, adminExt, userExt] at h hlast ⊢ <;> exact h
  · rintro ⟨rfl, rfl⟩; rfl

@[simp] theorem fileName_ne_tmpName (u : Bytes) (a : Bool) : fileName u a ≠ tmpName := by
  intro h
  have := congrArg List.getLast? h
  cases a <;> simp [fileName, adminExt, userExt, tmpName] at this

theorem fileName_not (u : Bytes) (a : Bool) : fileName u (!a) = u ++ if a then userExt else adminExt := by
  cases a <;> rfl

theorem exists_ok_iff {d : Dir} {u : Bytes} {e a : Bool} :
    exists_ d u = .ok (e, a) ↔ validName u = true ∧ u.length + adminExt.length ≤ nameMax ∧
      a = has d (fileName u true) ∧ e = (a || has d (fileName u false)) := by
  unfold exists_
  grind [append_adminExt, append_userExt]

theorem exists_get {d : Dir} {u : Bytes} {a : Bool} (h : exists_ d u = .ok (true, a)) :
    ∃ x, get d (fileName u a) = some x := by
  obtain ⟨-, -, ha, h⟩ := exists_ok_iff.1 h
  rw [← Option.isSome_iff_exists, ← has_eq]
  cases a
  · simpa using h
  · exact ha.symm

theorem has_of_exists_false {d : Dir} {u : Bytes} {a : Bool} (h : exists_ d u = .ok (false, a)) (b : Bool) :
    has d (fileName u b) = false := by
  obtain ⟨-, -, rfl, h⟩ := exists_ok_iff.1 h
  obtain ⟨h1, h2⟩ := Bool.or_eq_false_iff.1 h.symm
  cases b <;> assumption

theorem authenticate_ok_iff (c : Cfg) (d : Dir) (u pw : Bytes) (r : AuthOk) :
    authenticate c d u pw = .ok r ↔
      ∃ a b up ts, exists_ d u = .ok (true, a) ∧ get d (fileName u a) = some (.file b) ∧
        authFile c b pw = .ok (up, ts) ∧ r = ⟨a, up, ts⟩ := by
  unfold authenticate
  grind

theorem authFile_ok_iff (c : Cfg) (b pw : Bytes) (up : Bool) (ts : Int) :
    authFile c b pw = .ok (up, ts) ↔
      ∃ h ps salt hash, readHead b = some h ∧ c.lookup h.paramId = some ps ∧ ps.formatId = h.formatId ∧
        decodeSaltHash h.hashStr = some (salt, hash) ∧ ps.digest salt pw = hash ∧
        up = decide (c.default ≠ h.paramId) ∧ ts = h.lastChange := by
  unfold authFile checkDigest
  grind

/-- `d` and `d'` hold the same files for user `v`. -/
def sameUser (d d' : Dir) (v : Bytes) : Prop :=
  get d (v ++ adminExt) = get d' (v ++ adminExt) ∧ get d (v ++ userExt) = get d' (v ++ userExt)

theorem sameUser_get {d d' : Dir} {v : Bytes} (h : sameUser d d' v) (a : Bool) :
    get d (fileName v a) = get d' (fileName v a) := by
  cases a
  · exact h.2
  · exact h.1

theorem sameUser_exists {d d' : Dir} {v : Bytes} (h : sameUser d d' v) : exists_ d v = exists_ d' v := by
  unfold exists_ has
  rw [h.1, h.2]

theorem sameUser_authenticate (c : Cfg) {d d' : Dir} {v : Bytes} (h : sameUser d d' v) (p : Bytes) :
    authenticate c d v p = authenticate c d' v p := by
  simp only [authenticate, sameUser_exists h]
  split <;> simp only [sameUser_get h]

theorem ensureTmp_ok {d dt : Dir} (h : ensureTmp d = .ok dt) :
    dt = d ∨ get d tmpName = none ∧ dt = d ++ [(tmpName, .dir)] := by
  unfold ensureTmp at h
  grind

theorem get_ensureTmp {d dt : Dir} (h : ensureTmp d = .ok dt) {n : Bytes} (hn : n ≠ tmpName) :
    get dt n = get d n := by
  rcases ensureTmp_ok h with rfl | ⟨-, rfl⟩
  · rfl
  · simp [get_append_single, hn]

/-- `d'` is `d` after `writeHashStr` has installed the file `b` under the name `n`: the work
    area `.tmp` has been created if it was missing, every other entry is as it was. -/
def Installed (d d' : Dir) (n b : Bytes) : Prop :=
  ∃ dt, ensureTmp d = .ok dt ∧ d' = put dt n (.file b)

namespace Installed
variable {d d' : Dir} {n b : Bytes}

theorem get_self (h : Installed d d' n b) : get d' n = some (.file b) := by
  obtain ⟨dt, -, rfl⟩ := h; simp

theorem get_ne (h : Installed d d' n b) {m : Bytes} (h1 : m ≠ n) (h2 : m ≠ tmpName) : get d' m = get d m := by
  obtain ⟨dt, ht, rfl⟩ := h; simp [h1, get_ensureTmp ht h2]

theorem has_installed (h : Installed d d' n b) {m : Bytes} (hm : m ≠ tmpName) :
    has d' m = (decide (m = n) || has d m) := by
  obtain ⟨dt, ht, rfl⟩ := h
  by_cases h1 : m = n <;> simp [has_eq, h1, get_ensureTmp ht hm]

theorem mem_of_mem (h : Installed d d' n b) {e : Bytes × Node} (he : e ∈ d) (hn : e.1 ≠ n) : e ∈ d' := by
  obtain ⟨dt, ht, rfl⟩ := h
  rcases ensureTmp_ok ht with rfl | ⟨-, rfl⟩ <;> simp [mem_put, he, hn]

theorem mem_cases (h : Installed d d' n b) {e : Bytes × Node} (he : e ∈ d') :
    e = (n, .file b) ∨ e.1 = tmpName ∨ e ∈ d := by
  obtain ⟨dt, ht, rfl⟩ := h
  rcases ensureTmp_ok ht with rfl | ⟨-, rfl⟩ <;> simp [mem_put] at he <;> grind

end Installed

/-- `ha`: the file is installed under the flag `u` had; for a new user (`e = false`) any flag will do. -/
theorem Installed.exists_ {d d' : Dir} {u b : Bytes} {a e a0 : Bool} (hw : Installed d d' (fileName u a) b)
    (he : exists_ d u = .ok (e, a0)) (ha : e = true → a0 = a) : exists_ d' u = .ok (true, a) := by
  rw [exists_ok_iff] at he ⊢
  obtain ⟨hv, hl, rfl, rfl⟩ := he
  refine ⟨hv, hl, ?_⟩
  rw [hw.has_installed (fileName_ne_tmpName u _), hw.has_installed (fileName_ne_tmpName u _)]
  cases a <;> cases h1 : has d (fileName u true) <;> simp_all

theorem add_ok {c : Cfg} {d d' : Dir} {u pw salt : Bytes} {adm : Bool} {now : Int}
    (h : add c d u pw adm now salt = .ok d') :
    ∃ ps a, exists_ d u = .ok (false, a) ∧ c.lookup c.default = some ps ∧
      Installed d d' (fileName u adm) (newContent ps c.default now salt pw []) := by
  unfold add at h
  grind [Installed]

theorem update_ok {c : Cfg} {d d' : Dir} {u pw salt : Bytes} {now : Int}
    (h : update c d u pw now salt = .ok d') :
    ∃ ps a old, exists_ d u = .ok (true, a) ∧ get d (fileName u a) = some (.file old) ∧
      supported c (.file old) = true ∧ c.lookup c.default = some ps ∧
      Installed d d' (fileName u a) (newContent ps c.default now salt pw old) := by
  unfold update at h
  grind [Installed]

theorem setAdmin_ok {d d' : Dir} {u : Bytes} {st : Bool} (h : setAdmin d u st = .ok d') :
    ∃ a x, exists_ d u = .ok (true, a) ∧ get d (fileName u a) = some x ∧
      (a = st ∧ d' = d ∨ a = (!st) ∧ d' = put (del d (fileName u a)) (fileName u st) x) := by
  unfold setAdmin at h
  split at h <;> try contradiction
  rename_i a he
  -- the file to be renamed is there: `Exists` has just reported it
  obtain ⟨x, hx⟩ := exists_get he
  refine ⟨a, x, he, hx, ?_⟩
  split at h
  · exact .inl ⟨‹_›, by cases h; rfl⟩
  · simp only [hx] at h
    split at h <;> cases h
    rename_i y hy _ _
    cases hy
    exact .inr ⟨by cases a <;> cases st <;> simp_all, rfl⟩

theorem get_remove (d : Dir) (u n : Bytes) :
    get (remove d u) n =
      if validName u = true ∧ (n = fileName u true ∨ n = fileName u false) then none else get d n := by
  unfold remove
  by_cases hv : validName u = true <;> simp [hv, append_adminExt, append_userExt]
  grind

theorem authFile_newContent (c : Cfg) (ps : ParamSet) (now : Int) (salt pw old p : Bytes)
    (hps : c.lookup c.default = some ps) (hf : ∀ ch ∈ ps.formatId, ch ≠ colon ∧ ch ≠ nl)
    (h1 : -(2 ^ 63 : Int) ≤ now) (h2 : now < 2 ^ 63) (hp : c.default < 2 ^ 64) :
    authFile c (newContent ps c.default now salt pw old) p =
      if ps.digest salt p = ps.digest salt pw then .ok (false, now) else .error .wrongPassword := by
  simp only [authFile, newContent, readHead_formatLine _ _ _ _ _ _ hf h1 h2 hp, hps, ne_eq,
    not_true_eq_false, if_false, checkDigest, decodeSaltHash_hashStrOf]
  by_cases h : ps.digest salt p = ps.digest salt pw <;> simp [h]

theorem supported_newContent (c : Cfg) (ps : ParamSet) (now : Int) (salt pw old : Bytes)
    (hps : c.lookup c.default = some ps) (hf : ∀ ch ∈ ps.formatId, ch ≠ colon ∧ ch ≠ nl)
    (h1 : -(2 ^ 63 : Int) ≤ now) (h2 : now < 2 ^ 63) (hp : c.default < 2 ^ 64)
    (hsalt : salt ≠ []) (hdig : ps.digest salt pw ≠ []) :
    supported c (.file (newContent ps c.default now salt pw old)) = true := by
  simp only [supported, supportedFull, newContent, readHead_formatLine _ _ _ _ _ _ hf h1 h2 hp, hps, ne_eq,
    not_true_eq_false, if_false, isValid, decodeSaltHash_hashStrOf]
  simp [hsalt, hdig]

theorem setAdmin_moves_node {d d' : Dir} {u : Bytes} {st : Bool} (h : setAdmin d u st = .ok d') :
    ∃ a x, exists_ d u = .ok (true, a) ∧ get d (fileName u a) = some x ∧
      exists_ d' u = .ok (true, st) ∧ get d' (fileName u st) = some x := by
  obtain ⟨a, x, he, hx, ⟨rfl, rfl⟩ | ⟨rfl, rfl⟩⟩ := setAdmin_ok h
  · exact ⟨_, x, he, hx, he, hx⟩
  · refine ⟨_, x, he, hx, ?_, by simp⟩
    rw [exists_ok_iff] at he ⊢
    cases st <;> simp [he.1, he.2.1]

theorem setAdmin_authenticate (c : Cfg) {d d' : Dir} {u : Bytes} {st : Bool}
    (h : setAdmin d u st = .ok d') (p : Bytes) :
    authenticate c d' u p =
      match authenticate c d u p with
      | .ok r => .ok { r with isAdmin := st }
      | .error e => .error e := by
  obtain ⟨a, x, he, hx, he', hx'⟩ := setAdmin_moves_node h
  simp only [authenticate, he, he', hx, hx']
  cases x with
  | dir => rfl
  | file b => simp only; rcases authFile c b p with _ | ⟨up, ts⟩ <;> rfl

end Whawty.Store

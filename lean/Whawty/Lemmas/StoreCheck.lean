import Whawty.Lemmas.Store
import Whawty.Lemmas.Fold
namespace Whawty.Store

/-! A directory entry's name is `<user><ext>` (`checkUserFile_eq_some`); what `List` and `Check` compute,
stated without their loops and so without the order in which `readdir` returns the entries. -/

theorem extOf_suffix (n : Bytes) : extOf n <:+ n := by
  simp only [extOf]
  split
  · exact List.nil_suffix
  · rename_i hd
    -- `n.reverse` is its dot-free prefix followed by a rest that starts with the dot
    have hsplit := List.takeWhile_append_dropWhile (p := fun c : Byte => decide (c ≠ 46)) (l := n.reverse)
    have hhead := List.head_dropWhile_not (fun c : Byte => decide (c ≠ 46)) (l := n.reverse) hd
    cases hdw : n.reverse.dropWhile (fun c => decide (c ≠ 46)) with
    | nil => exact absurd hdw hd
    | cons c rest =>
      obtain rfl : c = 46 := by
        simp only [hdw, List.head_cons] at hhead
        simpa using hhead
      refine ⟨rest.reverse, ?_⟩
      have := congrArg List.reverse (hdw ▸ hsplit)
      simpa using this

theorem extOf_append_dot (u y : Bytes) (h : (46 : Byte) ∉ y) : extOf (u ++ 46 :: y) = 46 :: y := by
  have hy : ∀ c ∈ y.reverse, decide (c ≠ 46) = true := fun c hc => by
    simpa using fun e : c = 46 => h (e ▸ List.mem_reverse.1 hc)
  simp only [extOf, List.reverse_append, List.reverse_cons, List.append_assoc, List.singleton_append]
  rw [List.dropWhile_append_of_pos hy, List.takeWhile_append_of_pos hy]
  simp [List.dropWhile, List.takeWhile]

theorem extOf_fileName (u : Bytes) (a : Bool) : extOf (fileName u a) = if a then adminExt else userExt := by
  cases a
  · exact extOf_append_dot u _ (by decide)
  · exact extOf_append_dot u _ (by decide)

theorem checkUserFile_fileName (u : Bytes) (a : Bool) :
    checkUserFile (fileName u a) = some (validName u, u, a) := by
  have hne : ¬ userExt = adminExt := by decide
  cases a <;> simp [checkUserFile, extOf_fileName, hne] <;> simp [fileName]

theorem checkUserFile_eq_some {n u : Bytes} {v a : Bool} :
    checkUserFile n = some (v, u, a) ↔ v = validName u ∧ n = fileName u a := by
  refine ⟨fun h => ?_, fun ⟨hv, hn⟩ => by rw [hn, hv, checkUserFile_fileName]⟩
  -- a name with the extension `e` is what precedes the extension, followed by `e`
  have key : ∀ e : Bytes, extOf n = e → n = n.take (n.length - e.length) ++ e := by
    rintro _ rfl
    obtain ⟨p, hp⟩ := extOf_suffix n
    generalize extOf n = e at hp
    subst hp; simp
  simp only [checkUserFile] at h
  split at h
  · cases h; exact ⟨rfl, key _ ‹_›⟩
  · split at h
    · cases h; exact ⟨rfl, key _ ‹_›⟩
    · cases h

theorem listStep_some {c : Cfg} {l l' : List ListEntry} {y : Bytes × Node} (h : listStep c (some l) y = some l') :
    l' = l ∨ ∃ u adm, checkUserFile y.1 = some (true, u, adm) ∧ supported c y.2 = true ∧
      l' = l.filter (·.user ≠ u) ++ [⟨u, adm, (supportedFull c y.2).2.2.1⟩] := by
  unfold listStep at h
  grind [supported]

theorem list_entry_from_file (c : Cfg) (d : Dir) (l : List ListEntry) (h : list c d = some l) :
    ∀ e ∈ l, validName e.user = true ∧ ∃ x, (fileName e.user e.isAdmin, x) ∈ d ∧ supported c x = true := by
  refine foldl_some_invariant (listStep c) (fun _ => rfl) (P := fun l => ∀ e ∈ l, validName e.user = true ∧
    ∃ x, (fileName e.user e.isAdmin, x) ∈ d ∧ supported c x = true) h (by simp) ?_
  intro y hy l l' hl hs e he
  obtain rfl | ⟨u, adm, hc, hsup, rfl⟩ := listStep_some hs
  · exact hl e he
  · rcases List.mem_append.1 he with he | he
    · exact hl e (List.mem_filter.1 he).1
    · cases List.mem_singleton.1 he
      obtain ⟨hv, hn⟩ := checkUserFile_eq_some.1 hc
      exact ⟨hv.symm, y.2, hn ▸ hy, hsup⟩

/-- The entry does not make `Check` return an error. -/
def entryOk (D : Dir) (e : Bytes × Node) : Bool :=
  e.1 = tmpName ||
  match checkUserFile e.1 with
  | none => false
  | some (valid, u, adm) => !valid || !has D (u ++ if adm then userExt else adminExt)

/-- The entry is an administrator file with a valid name and a supported hash. -/
def entryAdmin (c : Cfg) (e : Bytes × Node) : Bool :=
  e.1 ≠ tmpName &&
  match checkUserFile e.1 with
  | some (true, _, true) => supported c e.2
  | _ => false

theorem entryOk_iff (D : Dir) (e : Bytes × Node) :
    entryOk D e = true ↔ e.1 = tmpName ∨ ∃ valid u adm, checkUserFile e.1 = some (valid, u, adm) ∧
      (valid = true → has D (u ++ if adm then userExt else adminExt) = false) := by
  unfold entryOk
  grind

theorem entryAdmin_iff (c : Cfg) (e : Bytes × Node) :
    entryAdmin c e = true ↔
      e.1 ≠ tmpName ∧ ∃ u, checkUserFile e.1 = some (true, u, true) ∧ supported c e.2 = true := by
  unfold entryAdmin
  grind

/-- `Check` accepts exactly when no entry is objectionable and some entry is a supported
    administrator — a statement without any iteration order. -/
theorem check_eq (c : Cfg) (d : Dir) : check c d = (d.all (entryOk d) && d.any (entryAdmin c)) := by
  unfold check
  simp only []
  -- one iteration of the loop, in terms of `entryOk` and `entryAdmin`
  rw [foldl_all_any (ok := entryOk d) (good := entryAdmin c) (fun _ => rfl)
    fun b e => by unfold entryOk entryAdmin; grind]
  cases d.all (entryOk d) <;> cases d.any (entryAdmin c) <;> rfl

theorem has_perm {d d' : Dir} (h : d.Perm d') (n : Bytes) : has d n = has d' n :=
  Bool.eq_iff_iff.2 (by simp only [has_iff_mem, h.mem_iff])

theorem entryOk_perm {d d' : Dir} (h : d.Perm d') (e : Bytes × Node) : entryOk d e = entryOk d' e := by
  unfold entryOk
  split
  · rfl
  · rw [has_perm h]

end Whawty.Store

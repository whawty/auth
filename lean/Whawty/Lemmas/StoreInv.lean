import Whawty.Lemmas.StoreCheck
namespace Whawty.Store

/-! What `Check` accepts, in terms of names: a fact about the entries that are there (`WellNamed`),
a fact about the map from names to nodes (`NoTwoFiles`), and an administrator. The operations
preserve each for its own reason. -/

def WellNamed (d : Dir) : Prop := ∀ e ∈ d, e.1 = tmpName ∨ ∃ u a, e.1 = fileName u a

/-- In the form in which `Check` tests it, entry by entry. -/
def NoTwoFiles (d : Dir) : Prop :=
  ∀ u a, validName u = true → has d (fileName u a) = true → has d (fileName u (!a)) = false

theorem all_entryOk_iff (d : Dir) : (∀ e ∈ d, entryOk d e = true) ↔ WellNamed d ∧ NoTwoFiles d := by
  simp only [entryOk_iff, ← fileName_not]
  constructor
  · intro h
    refine ⟨fun e he => (h e he).imp_right fun ⟨_, u, a, hc, _⟩ => ⟨u, a, (checkUserFile_eq_some.1 hc).2⟩,
      fun u a hv hhas => ?_⟩
    obtain ⟨x, hx⟩ := has_iff_mem.1 hhas
    rcases h _ hx with ht | ⟨valid, v, adm, hc, hno⟩
    · exact absurd ht (fileName_ne_tmpName u a)
    · obtain ⟨rfl, huv⟩ := checkUserFile_eq_some.1 hc
      obtain ⟨rfl, rfl⟩ := fileName_inj.1 huv
      exact hno hv
  · rintro ⟨hW, hN⟩ e he
    exact (hW e he).imp_right fun ⟨u, a, hn⟩ =>
      ⟨_, u, a, hn ▸ checkUserFile_fileName u a, fun hv => hN u a hv (has_iff_mem.2 ⟨e.2, hn ▸ he⟩)⟩

/-- `v` is an administrator `Check` counts: a valid name and an `.admin` entry with a supported hash
    (not the flag `AuthOk.isAdmin` of a login, nor the Boolean `entryAdmin` of one entry). -/
def IsAdmin (c : Cfg) (d : Dir) (v : Bytes) : Prop :=
  validName v = true ∧ ∃ x, (fileName v true, x) ∈ d ∧ supported c x = true

/-- Some entry is an administrator file with a valid name and a supported hash, and it belongs to
    somebody other than `u`. -/
def HasOtherAdmin (c : Cfg) (d : Dir) (u : Bytes) : Prop :=
  ∃ e ∈ d, e.1 ≠ tmpName ∧ ∃ v, v ≠ u ∧ checkUserFile e.1 = some (true, v, true) ∧ supported c e.2 = true

theorem hasOtherAdmin_iff (c : Cfg) (d : Dir) (u : Bytes) :
    HasOtherAdmin c d u ↔ ∃ v, v ≠ u ∧ IsAdmin c d v := by
  constructor
  · rintro ⟨⟨n, x⟩, he, -, v, hvu, hc, hs⟩
    obtain ⟨hv, rfl⟩ := checkUserFile_eq_some.1 hc
    exact ⟨v, hvu, hv.symm, x, he, hs⟩
  · rintro ⟨v, hvu, hv, x, he, hs⟩
    exact ⟨_, he, fileName_ne_tmpName v true, v, hvu, by rw [checkUserFile_fileName, hv], hs⟩

theorem any_entryAdmin_iff (c : Cfg) (d : Dir) : (∃ e ∈ d, entryAdmin c e = true) ↔ ∃ v, IsAdmin c d v := by
  simp only [entryAdmin_iff]
  constructor
  · rintro ⟨⟨n, x⟩, he, -, v, hc, hs⟩
    obtain ⟨hv, rfl⟩ := checkUserFile_eq_some.1 hc
    exact ⟨v, hv.symm, x, he, hs⟩
  · rintro ⟨v, hv, x, he, hs⟩
    exact ⟨_, he, fileName_ne_tmpName v true, v, by rw [checkUserFile_fileName, hv], hs⟩

structure Valid (c : Cfg) (d : Dir) : Prop where
  wellNamed : WellNamed d
  noTwoFiles : NoTwoFiles d
  admin : ∃ v, IsAdmin c d v

theorem check_iff_valid (c : Cfg) (d : Dir) : check c d = true ↔ Valid c d := by
  rw [check_eq, Bool.and_eq_true, List.all_eq_true, List.any_eq_true, all_entryOk_iff, any_entryAdmin_iff]
  exact ⟨fun ⟨⟨h1, h2⟩, h3⟩ => ⟨h1, h2, h3⟩, fun ⟨h1, h2, h3⟩ => ⟨⟨h1, h2⟩, h3⟩⟩

/-- The new file is itself the administrator (`a = true`), or there was one. -/
theorem Installed.valid {c : Cfg} {d d' : Dir} {u b : Bytes} {a : Bool} (hw : Installed d d' (fileName u a) b)
    (hW : WellNamed d) (hN : NoTwoFiles d) (hadm : a = true ∨ ∃ v, IsAdmin c d v)
    (hu : validName u = true) (hother : has d (fileName u (!a)) = false)
    (hb : a = true → supported c (.file b) = true) : Valid c d' := by
  refine ⟨fun e he => ?_, fun v a' hvn => ?_, ?_⟩
  · rcases hw.mem_cases he with rfl | ht | he
    · exact .inr ⟨u, a, rfl⟩
    · exact .inl ht
    · exact hW e he
  · have := hN v a' hvn
    rw [hw.has_installed (fileName_ne_tmpName _ _), hw.has_installed (fileName_ne_tmpName _ _)]
    by_cases hvu : v = u
    · subst hvu; cases a <;> cases a' <;> simp_all
    · simpa [hvu] using this
  · have hself : a = true → IsAdmin c d' u := by
      rintro rfl
      exact ⟨hu, _, get_some_mem hw.get_self, hb rfl⟩
    rcases hadm with ha | ⟨v, hvn, x, he, hs⟩
    · exact ⟨u, hself ha⟩
    · by_cases heq : fileName v true = fileName u a
      · -- the administrator's own file is replaced: the new one is supported
        exact ⟨u, hself (fileName_inj.1 heq).2.symm⟩
      · exact ⟨v, hvn, x, hw.mem_of_mem he heq, hs⟩

/-- The rename set-admin performs. -/
theorem Valid.rename {c : Cfg} {d : Dir} {u : Bytes} {st : Bool} {x : Node} (hv : Valid c d)
    (ho : ∃ v, v ≠ u ∧ IsAdmin c d v) : Valid c (put (del d (fileName u (!st))) (fileName u st) x) := by
  refine ⟨fun e he => ?_, fun v a hvn => ?_, ?_⟩
  · rcases mem_put.1 he with rfl | ⟨he, -⟩
    · exact .inr ⟨u, st, rfl⟩
    · exact hv.wellNamed e (mem_del.1 he).1
  · have := hv.noTwoFiles v a hvn
    by_cases hvu : v = u
    · subst hvu; cases st <;> cases a <;> simp
    · simpa [hvu] using this
  · obtain ⟨v, hvu, hvn, y, he, hs⟩ := ho
    exact ⟨v, hvn, y, mem_put.2 (.inr ⟨mem_del.2 ⟨he, by simp [hvu]⟩, by simp [hvu]⟩), hs⟩

theorem Valid.remove {c : Cfg} {d : Dir} {u : Bytes} (hv : Valid c d) (ho : ∃ v, v ≠ u ∧ IsAdmin c d v) :
    Valid c (del (del d (fileName u true)) (fileName u false)) := by
  refine ⟨fun e he => hv.wellNamed e (mem_del.1 (mem_del.1 he).1).1, fun v a hvn h => ?_, ?_⟩
  · simp only [has_del, Bool.and_eq_true] at h
    simp [hv.noTwoFiles v a hvn h.2.2]
  · obtain ⟨v, hvu, hvn, y, he, hs⟩ := ho
    exact ⟨v, hvn, y, mem_del.2 ⟨mem_del.2 ⟨he, by simp [hvu]⟩, by simp [hvu]⟩, hs⟩

end Whawty.Store

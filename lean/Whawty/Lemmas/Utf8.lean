/-
  The byte-level white-space scan of Model/Policy.lean against the rune-level definition of
  Model/Utf8.lean (Go's UTF-8 decoding, unicode.IsSpace, strings.FieldsFunc).
-/
import Whawty.Model.Utf8
import Whawty.Lemmas.Basic
import Whawty.Lemmas.Policy
namespace Whawty.Utf8
open Policy

theorem isCont_iff (b : Byte) : isCont b = true ↔ 0x80 ≤ b.toNat ∧ b.toNat ≤ 0xBF := by
  simp [isCont]

theorem isCont_ofNat (x : Nat) : isCont (.ofNat (0x80 + x % 64)) = true := by
  rw [isCont_iff, UInt8.toNat_ofNat']
  omega

/-- The arithmetic of `decodeRune_cons` on plain numbers: `a`, `b`, `d` are the payloads of the bytes, read by
    `decodeRune` as digits in base 64; `mul_add_div_mod` gives the digits back, so each byte is its tag plus
    a digit of the rune. The first conjunct is the range that excludes overlong spellings. Called with
    `Nat.sub_add_cancel`, so that `decodeRune`'s truncated subtractions are met here and nowhere else. -/
theorem rune2 {c s1 a b : Nat} (ha : a + 0xC0 = c) (hb : b + 0x80 = s1) (hc : 0xC2 ≤ c ∧ c < 0xE0) (h1 : s1 ≤ 0xBF) :
    (0x80 ≤ a * 64 + b ∧ a * 64 + b < 0x800) ∧ 0xC0 + (a * 64 + b) / 64 = c ∧ 0x80 + (a * 64 + b) % 64 = s1 := by
  obtain ⟨e1, e2⟩ := mul_add_div_mod a (show b < 64 by omega)
  rw [e1, e2]
  omega

theorem rune3 {c s1 s2 a b d : Nat} (ha : a + 0xE0 = c) (hb : b + 0x80 = s1) (hd : d + 0x80 = s2)
    (h1 : s1 ≤ 0xBF) (h2 : s2 ≤ 0xBF) (ho : c = 0xE0 → 0xA0 ≤ s1) :
    0x800 ≤ a * 4096 + b * 64 + d ∧ 0xE0 + (a * 4096 + b * 64 + d) / 64 / 64 = c ∧
      0x80 + (a * 4096 + b * 64 + d) / 64 % 64 = s1 ∧ 0x80 + (a * 4096 + b * 64 + d) % 64 = s2 := by
  refine ⟨by omega, ?_⟩
  obtain ⟨e1, e2⟩ := mul_add_div_mod (a * 64 + b) (show d < 64 by omega)
  obtain ⟨e3, e4⟩ := mul_add_div_mod a (show b < 64 by omega)
  rw [show a * 4096 + b * 64 + d = (a * 64 + b) * 64 + d by rw [Nat.add_mul, Nat.mul_assoc], e1, e2, e3, e4,
    Nat.add_comm _ a, Nat.add_comm _ b, Nat.add_comm _ d]
  exact ⟨ha, hb, hd⟩

-- no white-space rune has width 4: the lower bound is all that is needed
theorem rune4 {c s1 a b d e : Nat} (ha : a + 0xF0 = c) (hb : b + 0x80 = s1) (ho : c = 0xF0 → 0x90 ≤ s1) :
    0x10000 ≤ a * 262144 + b * 4096 + d * 64 + e := by omega

/-- What `decodeRune` does, case by case: an ASCII byte; `RuneError` of width 1 for anything invalid;
    otherwise a rune `r` beyond the range of the shorter encodings, and for width 2 and 3 the bytes are its
    encoding: a lead byte and continuation bytes, each a tag plus a base-64 digit of `r` (`utf8.EncodeRune`),
    so the rune fixes the bytes. Of width 4 only the range is stated: no white-space rune is that wide. -/
theorem decodeRune_cons (c : Byte) (tail : Bytes) :
    (c.toNat < 0x80 ∧ decodeRune (c :: tail) = (c.toNat, 1)) ∨
    (0x80 ≤ c.toNat ∧
      (decodeRune (c :: tail) = (runeError, 1) ∨
      (∃ r t, decodeRune (c :: tail) = (r, 2) ∧ (0x80 ≤ r ∧ r < 0x800) ∧
        c :: tail = .ofNat (0xC0 + r / 64) :: .ofNat (0x80 + r % 64) :: t) ∨
      (∃ r t, decodeRune (c :: tail) = (r, 3) ∧ 0x800 ≤ r ∧
        c :: tail = .ofNat (0xE0 + r / 64 / 64) :: .ofNat (0x80 + r / 64 % 64) :: .ofNat (0x80 + r % 64) :: t) ∨
      (∃ r s1 s2 s3 t, decodeRune (c :: tail) = (r, 4) ∧ 0x10000 ≤ r ∧
        tail = s1 :: s2 :: s3 :: t ∧ isCont s1 = true ∧ isCont s2 = true ∧ isCont s3 = true))) := by
  generalize hs : c :: tail = s
  -- the hypotheses of each case are the tests of `decodeRune` in the order it makes them
  fun_cases decodeRune s
  case case1 => cases hs
  case case2 h =>
    cases hs
    exact .inl ⟨h, rfl⟩
  case case4 h1 h2 h3 s1 t c1 =>
    cases hs
    have hb := (isCont_iff s1).mp c1
    have hc := Nat.le_of_not_lt h2
    obtain ⟨hr, ec, e1⟩ := rune2 (Nat.sub_add_cancel (Nat.le_trans (by decide) hc)) (Nat.sub_add_cancel hb.1)
      ⟨hc, h3⟩ hb.2
    refine .inr ⟨Nat.le_of_not_lt h1, .inr (.inl ⟨_, t, rfl, hr, ?_⟩)⟩
    rw [ec, e1, UInt8.ofNat_toNat, UInt8.ofNat_toNat]
  case case7 h1 _ h3 _ s1 s2 t hv =>
    cases hs
    obtain ⟨p, q, c2⟩ := hv
    have hb := (isCont_iff s2).mp c2
    have p1 : 0x80 ≤ s1.toNat := Nat.le_trans (by split <;> decide) p
    have q1 : s1.toNat ≤ 0xBF := Nat.le_trans q (by split <;> decide)
    obtain ⟨hr, ec, e1, e2⟩ := rune3 (Nat.sub_add_cancel (Nat.le_of_not_lt h3)) (Nat.sub_add_cancel p1)
      (Nat.sub_add_cancel hb.1) q1 hb.2 (fun h0 => by simpa [h0] using p)
    refine .inr ⟨Nat.le_of_not_lt h1, .inr (.inr (.inl ⟨_, t, rfl, hr, ?_⟩))⟩
    rw [ec, e1, e2, UInt8.ofNat_toNat, UInt8.ofNat_toNat, UInt8.ofNat_toNat]
  case case10 h1 _ _ h4 _ s1 s2 s3 t hv =>
    cases hs
    obtain ⟨p, q, c2, c3⟩ := hv
    have p1 : 0x80 ≤ s1.toNat := Nat.le_trans (by split <;> decide) p
    have q1 : s1.toNat ≤ 0xBF := Nat.le_trans q (by split <;> decide)
    exact .inr ⟨Nat.le_of_not_lt h1, .inr (.inr (.inr ⟨_, s1, s2, s3, t, rfl,
      rune4 (Nat.sub_add_cancel (Nat.le_of_not_lt h4)) (Nat.sub_add_cancel p1) (fun h0 => by simpa [h0] using p),
      rfl, (isCont_iff s1).mpr ⟨p1, q1⟩, c2, c3⟩))⟩
  -- every other case is invalid: a stray continuation byte, a lead byte beyond F4, a continuation byte
  -- missing or out of range
  all_goals
    cases hs
    exact .inr ⟨Nat.le_of_not_lt ‹_›, .inl rfl⟩

theorem decodeRune_shape (c : Byte) (tail : Bytes) :
    ∃ conts t, tail = conts ++ t ∧ (decodeRune (c :: tail)).2 = conts.length + 1 ∧
      ∀ b ∈ conts, isCont b = true := by
  rcases decodeRune_cons c tail with ⟨_, e⟩ | ⟨_, e | ⟨r, t, e, _, hl⟩ | ⟨r, t, e, _, hl⟩ |
    ⟨r, s1, s2, s3, t, e, _, rfl, c1, c2, c3⟩⟩
  all_goals rw [e]
  · exact ⟨[], tail, rfl, rfl, nofun⟩
  · exact ⟨[], tail, rfl, rfl, nofun⟩
  · exact ⟨[_], t, (List.cons.inj hl).2, rfl, by simp [-UInt8.ofNat_add, isCont_ofNat]⟩
  · exact ⟨[_, _], t, (List.cons.inj hl).2, rfl, by simp [-UInt8.ofNat_add, isCont_ofNat]⟩
  · exact ⟨[s1, s2, s3], t, rfl, rfl, by simp [c1, c2, c3]⟩

/-- `unicode.IsSpace`: the ASCII blanks, the two runes of width 2, those of width 3 (the second
    group of these is encoded `E2 80 xx`). -/
theorem isSpaceRune_iff (r : Nat) : isSpaceRune r = true ↔
    (r = 9 ∨ r = 10 ∨ r = 11 ∨ r = 12 ∨ r = 13 ∨ r = 32) ∨ (r = 0x85 ∨ r = 0xA0) ∨
    (r = 0x1680 ∨ ((0x2000 ≤ r ∧ r ≤ 0x200A) ∨ r = 0x2028 ∨ r = 0x2029 ∨ r = 0x202F) ∨
      r = 0x205F ∨ r = 0x3000) := by
  simp only [isSpaceRune, Bool.or_eq_true, decide_eq_true_eq, or_assoc]

theorem isSpace_iff (c : Byte) : Policy.isSpace c = true ↔
    c.toNat = 9 ∨ c.toNat = 10 ∨ c.toNat = 11 ∨ c.toNat = 12 ∨ c.toNat = 13 ∨ c.toNat = 32 := by
  simp only [Policy.isSpace, Bool.or_eq_true, decide_eq_true_eq, ← UInt8.toNat_inj, or_assoc]
  rw [or_comm]
  simp [or_assoc]

theorem ascii_space (c : Byte) (h : c.toNat < 0x80) : isSpaceRune c.toNat = Policy.isSpace c := by
  rw [Bool.eq_iff_iff, isSpaceRune_iff, isSpace_iff]
  exact or_iff_left (by omega)

theorem high_not_ascii_space (c : Byte) (h : 0x80 ≤ c.toNat) : Policy.isSpace c = false := by
  rw [← Bool.not_eq_true, isSpace_iff]
  omega

/-- The byte-level test of Model/Policy.lean is the rune-level one. -/
theorem spaceLen_eq_rune (s : Bytes) :
    Policy.spaceLen s = if isSpaceRune (decodeRune s).1 then (decodeRune s).2 else 0 := by
  unfold Policy.spaceLen
  split
  -- `h_4` is the fourth pattern of `spaceLen` (`E2 80 c`), `h_7` its catch-all for a non-empty string,
  -- whose hypotheses `x5 … x0` say that none of the six patterns before it matched (first pattern: `x5`)
  case h_4 c tail =>
    -- E2 80 xx is U+2000 + (xx - 80) if xx is a continuation byte
    have e : decodeRune (0xE2 :: 0x80 :: c :: tail) =
        if isCont c then (0x2000 + (c.toNat - 0x80), 3) else (runeError, 1) := by
      simp [decodeRune]
    simp only [e, UInt8.le_iff_toNat_le, ← UInt8.toNat_inj, UInt8.toNat_ofNat]
    by_cases hc : isCont c = true
    · rw [if_pos hc]
      rw [isCont_iff] at hc
      obtain ⟨n, hn⟩ := Nat.exists_eq_add_of_le' hc.1
      rw [hn] at hc ⊢
      -- with the variable on the left, `simp`'s arithmetic turns every `n + 0x2000 = k` into `n = k - 0x2000`
      -- or `False` at once; `omega` would try each of the fifteen runes against each alternative of the test
      -- 95 = 0x205F - 0x2000 and 4096 = 0x3000 - 0x2000: beyond `n ≤ 0x3F`
      simp [isSpaceRune_iff, Nat.add_comm 0x2000, show ¬ n = 95 by omega, show ¬ n = 4096 by omega]
    · rw [if_neg hc, if_neg (by rw [isCont_iff] at hc; omega)]
      rfl
  case h_7 c tail x5 x4 x3 x2 x1 x0 =>
    -- no pattern matches: what `decodeRune` yields is white space only if it is an ASCII blank,
    -- since the bytes of a white-space rune of width 2 or 3 are one of the patterns
    rcases decodeRune_cons c tail with ⟨h, e⟩ | ⟨h, hd⟩
    · rw [e, ascii_space c h]
    rw [high_not_ascii_space c h]
    suffices hn : ¬ isSpaceRune (decodeRune (c :: tail)).1 = true by simp [hn]
    rcases hd with e | ⟨r, t, e, h, hl⟩ | ⟨r, t, e, h, hl⟩ | ⟨r, s1, s2, s3, t, e, h, _⟩
    all_goals simp only [e, isSpaceRune_iff]
    · decide
    · obtain ⟨rfl, rfl⟩ := List.cons.inj hl
      rintro (hr | (rfl | rfl) | hr)
      · omega
      · exact x5 t rfl rfl
      · exact x4 t rfl rfl
      · omega
    · obtain ⟨rfl, rfl⟩ := List.cons.inj hl
      rintro (hr | hr | rfl | hr | rfl | rfl)
      · omega
      · omega
      · exact x3 t rfl rfl
      · have e : r / 64 = 0x80 := by omega
        exact x2 _ t (by rw [e]; rfl) (by rw [e]; rfl)
      · exact x1 t rfl rfl
      · exact x0 t rfl rfl
    · omega
  -- the literal patterns, and the empty string: both sides compute
  all_goals rfl

theorem spaceLen_cont (b : Byte) (t : Bytes) (h : isCont b = true) : Policy.spaceLen (b :: t) = 0 := by
  rw [isCont_iff] at h
  have e : decodeRune (b :: t) = (runeError, 1) := by
    simp [decodeRune, show ¬ b.toNat < 0x80 by omega, show b.toNat < 0xC2 by omega]
  rw [spaceLen_eq_rune, e]
  rfl

/-- The byte-level scan walks over continuation bytes one by one. -/
theorem fieldsAux_conts (conts t : Bytes) (hc : ∀ b ∈ conts, isCont b = true) (n : Nat) (cur : Bytes) :
    fieldsAux (n + conts.length) (conts ++ t) cur = fieldsAux n t (conts.reverse ++ cur) := by
  induction conts generalizing cur with
  | nil => rfl
  | cons b conts ih =>
    simp only [List.cons_append, List.length_cons, ← Nat.add_assoc, fieldsAux, spaceLen_cont b _ (hc b (by simp)),
      if_true]
    rw [ih (fun b hb => hc b (by simp [hb]))]
    simp

/-- The byte-level scan computes `strings.FieldsFunc(s, unicode.IsSpace)`. -/
theorem fieldsRune_eq_fieldsAux (n : Nat) (s cur : Bytes) (h : s.length ≤ n) :
    fieldsRune n s cur = fieldsAux n s cur := by
  induction n generalizing s cur with
  | zero => simp [fieldsRune, fieldsAux]
  | succ n ih =>
    cases s with
    | nil => simp [fieldsRune, fieldsAux]
    | cons c rest =>
      obtain ⟨conts, t, rfl, hw, hc⟩ := decodeRune_shape c rest
      simp only [List.length_cons, List.length_append] at h
      simp only [fieldsRune, fieldsAux, spaceLen_eq_rune, hw, List.drop_succ_cons, List.take_succ_cons,
        List.drop_left, List.take_left, ih t _ (show t.length ≤ n by omega)]
      by_cases hsp : isSpaceRune (decodeRune (c :: (conts ++ t))).1 = true
      · -- a white-space rune: both scans cut here
        simp [hsp]
      · -- not white space: the byte-level scan walks over the rune's bytes one by one, and has spent a unit of
        -- fuel on each of them where the rune-level scan has spent one on the rune
        obtain ⟨m, rfl⟩ : ∃ m, n = m + conts.length := ⟨n - conts.length, by omega⟩
        simp only [hsp, Bool.false_eq_true, if_false, if_true]
        rw [fieldsAux_conts conts t hc, fieldsAux_fuel m _ t _ (by omega)]
        simp

end Whawty.Utf8

/-
  Model of cmd/whawty-auth/policy.go: the condition parser of the zxcvbn policy, the policy
  decision (the zxcvbn estimate itself is a parameter), and the policy gate in front of the
  store's write operations (cmd/whawty-auth/store.go: init / add / update).
-/
import Whawty.Model.Record
namespace Whawty.Policy
open Whawty

inductive Kind | score | entropy | time deriving Repr, DecidableEq

structure Cond where
  kind : Kind
  threshold : Nat
  deriving Repr, DecidableEq

/-- ASCII white space (`strings.Fields`' fast path, the same set as `unicode.IsSpace` below 0x80). -/
def isSpace (c : Byte) : Bool := c = 32 || c = 9 || c = 10 || c = 11 || c = 12 || c = 13

/-- `strings.Fields` on an arbitrary Go string: the number of bytes of the white-space rune
    (`unicode.IsSpace`) that starts the byte string, 0 if it does not start with one. Beyond
    ASCII these are U+0085, U+00A0 (C2 85, C2 A0), U+1680 (E1 9A 80), U+2000..U+200A,
    U+2028, U+2029, U+202F (E2 80 80..8A / A8 / A9 / AF), U+205F (E2 81 9F) and U+3000
    (E3 80 80). Their first bytes are UTF-8 lead bytes: Go's decoder, which consumes one byte
    for anything invalid and otherwise a lead byte followed by continuation bytes only, is
    always at a rune boundary when it meets one, so scanning bytes is scanning runes. -/
def spaceLen : Bytes → Nat
  | 0xC2 :: 0x85 :: _ => 2
  | 0xC2 :: 0xA0 :: _ => 2
  | 0xE1 :: 0x9A :: 0x80 :: _ => 3
  | 0xE2 :: 0x80 :: c :: _ => if (0x80 ≤ c ∧ c ≤ 0x8A) ∨ c = 0xA8 ∨ c = 0xA9 ∨ c = 0xAF then 3 else 0
  | 0xE2 :: 0x81 :: 0x9F :: _ => 3
  | 0xE3 :: 0x80 :: 0x80 :: _ => 3
  | c :: _ => if isSpace c then 1 else 0
  | [] => 0

/-- `strings.Fields` (fuel = the length of the input; every step consumes at least a byte). -/
def fieldsAux : Nat → Bytes → Bytes → List Bytes
  | 0, _, cur => if cur.isEmpty then [] else [cur.reverse]
  | _ + 1, [], cur => if cur.isEmpty then [] else [cur.reverse]
  | n + 1, c :: rest, cur =>
    let k := spaceLen (c :: rest)
    if k = 0 then fieldsAux n rest (c :: cur)
    else if cur.isEmpty then fieldsAux n ((c :: rest).drop k) []
    else cur.reverse :: fieldsAux n ((c :: rest).drop k) []

def fields (s : Bytes) : List Bytes := fieldsAux s.length s []

def geB : Bytes := [62, 61]                                   -- ">="
def scoreB : Bytes := [115, 99, 111, 114, 101]                -- "score"
def entropyB : Bytes := [101, 110, 116, 114, 111, 112, 121]   -- "entropy"
def timeB : Bytes := [116, 105, 109, 101]                     -- "time"

/-- `newZXCVBNPolicy`: exactly three fields, the second `>=`, the third a decimal uint64, the
    first one of score (threshold at most 4) / entropy / time. -/
def parseCondition (s : Bytes) : Option Cond :=
  match fields s with
  | [k, op, t] =>
    if op ≠ geB then none
    else match Rec.parseUint64 t with
      | none => none
      | some thr =>
        if k = scoreB then (if thr > 4 then none else some ⟨.score, thr⟩)
        else if k = entropyB then some ⟨.entropy, thr⟩
        else if k = timeB then some ⟨.time, thr⟩
        else none
  | _ => none

inductive PolicyCfg
  | none                      -- --policy-type ""
  | zxcvbn (c : Cond)
  deriving Repr, DecidableEq

def zxcvbnB : Bytes := [122, 120, 99, 118, 98, 110]

/-- `NewPasswordPolicy`: none = the agent refuses to start. -/
def newPolicy (policyType condition : Bytes) : Option PolicyCfg :=
  if policyType = [] then some .none
  else if policyType = zxcvbnB then (parseCondition condition).map .zxcvbn
  else none

/-- The zxcvbn estimate of a (password, user name) pair, as far as the policy looks at it:
    the score and the integer parts of entropy and crack time. -/
structure Estimate where
  score : Nat
  entropyFloor : Nat
  timeFloor : Nat
  deriving Repr, DecidableEq

/-- `PolicyChecker.Check`. -/
def policyOk (p : PolicyCfg) (z : Estimate) : Bool :=
  match p with
  | .none => true
  | .zxcvbn ⟨.score, thr⟩ => z.score ≥ thr
  | .zxcvbn ⟨.entropy, thr⟩ => z.entropyFloor ≥ thr
  | .zxcvbn ⟨.time, thr⟩ => z.timeFloor ≥ thr

/-- The gate in `store.init/add/update`: the store operation runs only if the policy accepts
    the password; `storeOp` = what the store would do (none = the store refuses). -/
def guardedWrite {σ : Type} (p : PolicyCfg) (z : Estimate) (st : σ) (storeOp : Option σ) : Option σ × σ :=
  if !policyOk p z then (none, st)
  else match storeOp with
    | some st' => (some st', st')
    | none => (none, st)

end Whawty.Policy

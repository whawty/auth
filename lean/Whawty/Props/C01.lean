/-
  C01 — Password verdict tracks the last acknowledged write, for every history.
  `digest` is the parameter set's (uninterpreted) digest function; "P is the last password"
  is `ps.digest salt P = ps.digest salt P₀`, and `keyEquiv` below explains which passwords
  the schema's own algorithm cannot tell apart.
-/
import Whawty.Model.StoreHist
import Whawty.Props.C02
import Whawty.Props.C03
namespace Whawty.Store.C01
open Whawty.Rec

/-- Well-formedness of a configuration and of the clock that the theorems need (format ids
    without ':' / newline, ids and times in the machine ranges). -/
structure CfgOk (c : Cfg) : Prop where
  defaultLt : c.default < 2 ^ 64
  plain : ∀ id ps, c.lookup id = some ps → ∀ ch ∈ ps.formatId, ch ≠ colon ∧ ch ≠ nl

def timeOk (now : Int) : Prop := -(2 ^ 63 : Int) ≤ now ∧ now < 2 ^ 63

/-- The verdict after `writeHashStr` has installed a new record for `u`, who had no file or
    had it under the flag `a`. -/
theorem written_then_auth {c : Cfg} {d d' : Dir} {u pw salt old : Bytes} {a e a0 : Bool} {now : Int} {ps : ParamSet}
    (hw : Installed d d' (fileName u a) (newContent ps c.default now salt pw old))
    (he : exists_ d u = .ok (e, a0)) (ha : e = true → a0 = a) (hps : c.lookup c.default = some ps)
    (hc : CfgOk c) (ht : timeOk now) (p : Bytes) :
    authenticate c d' u p =
      if ps.digest salt p = ps.digest salt pw then .ok ⟨a, false, now⟩ else .error .wrongPassword := by
  simp only [authenticate, hw.exists_ he ha, hw.get_self,
    authFile_newContent c ps now salt pw old p hps (hc.plain _ _ hps) ht.1 ht.2 hc.defaultLt]
  by_cases hq : ps.digest salt p = ps.digest salt pw <;> simp [hq]

/-- After a successful add of `u` with password `pw`, authenticating `u` with `p` succeeds
    exactly when `p` has the digest of `pw` (under the written salt and the default set), and
    reports the admin flag and time of that write; the hash is not upgradeable. -/
theorem add_then_auth {c : Cfg} {d d' : Dir} {u pw salt : Bytes} {adm : Bool} {now : Int}
    (h : add c d u pw adm now salt = .ok d') (hc : CfgOk c) (ht : timeOk now) :
    ∃ ps, c.lookup c.default = some ps ∧ ∀ p, authenticate c d' u p =
      if ps.digest salt p = ps.digest salt pw then .ok ⟨adm, false, now⟩ else .error .wrongPassword := by
  obtain ⟨ps, a, he, hps, hw⟩ := add_ok h
  exact ⟨ps, hps, written_then_auth hw he (by simp) hps hc ht⟩

/-- The same for update; the admin flag is the one the user had. -/
theorem update_then_auth {c : Cfg} {d d' : Dir} {u pw salt : Bytes} {now : Int}
    (h : update c d u pw now salt = .ok d') (hc : CfgOk c) (ht : timeOk now) :
    ∃ ps a, c.lookup c.default = some ps ∧ exists_ d u = .ok (true, a) ∧ ∀ p, authenticate c d' u p =
      if ps.digest salt p = ps.digest salt pw then .ok ⟨a, false, now⟩ else .error .wrongPassword := by
  obtain ⟨ps, a, old, he, -, -, hps, hw⟩ := update_ok h
  exact ⟨ps, a, hps, he, written_then_auth hw he (by simp) hps hc ht⟩

/-- An operation of a history — successful or failing — changes no entry of the directory other
    than its user's two files and `.tmp`. -/
theorem step_confined (c : Cfg) (d : Dir) (op : Op) (n : Bytes)
    (h1 : n ≠ op.user ++ userExt) (h2 : n ≠ op.user ++ adminExt) (h3 : n ≠ tmpName) :
    get (step c d op) n = get d n := by
  cases op with
  | add u pw adm now salt =>
    simp only [step]
    split
    · exact C03.effects_confined_add ‹_› n h1 h2 h3
    · rfl
  | update u pw now salt =>
    simp only [step]
    split
    · exact C03.effects_confined_update ‹_› n h1 h2 h3
    · rfl
  | setAdmin u st =>
    simp only [step]
    split
    · exact C03.effects_confined_setAdmin ‹_› n h1 h2
    · rfl
  | remove u => exact C03.effects_confined_remove d u n h1 h2

theorem step_other_user (c : Cfg) (d : Dir) (op : Op) {v : Bytes} (hv : op.user ≠ v) :
    sameUser d (step c d op) v := by
  have hv' := Ne.symm hv
  constructor <;> refine (step_confined c d op _ ?_ ?_ ?_).symm <;>
    simp [append_adminExt, append_userExt, hv']

/-- Hence their verdicts, admin flags, times and existence are untouched. -/
theorem other_user_verdict_unchanged (c : Cfg) {d d' : Dir} {v : Bytes} (h : sameUser d d' v) (p : Bytes) :
    authenticate c d' v p = authenticate c d v p ∧ exists_ d' v = exists_ d v :=
  ⟨(sameUser_authenticate c h p).symm, (sameUser_exists h).symm⟩

/-- The key equivalence inherent in PBKDF2-HMAC (scrypt parameter sets): the password enters
    only through HMAC's 64-byte key block. `H` is SHA-256 (abstract, 32-byte output). -/
def hmacKeyBlock (H : Bytes → Bytes) (key : Bytes) : Bytes :=
  let k := if key.length > 64 then H key else key
  k ++ List.replicate (64 - k.length) 0

/-- Trailing NUL bytes are not told apart (up to the block size) … -/
theorem keyEquiv_trailing_nul (H : Bytes → Bytes) (p : Bytes) (k : Nat) (h : p.length + k ≤ 64) :
    hmacKeyBlock H (p ++ List.replicate k 0) = hmacKeyBlock H p := by
  have h1 : ¬ p.length + k > 64 := by omega
  have h2 : ¬ p.length > 64 := by omega
  simp only [hmacKeyBlock, List.length_append, List.length_replicate, h1, h2, if_false, List.append_assoc,
    List.replicate_append_replicate]
  congr 2; omega

/-- … and a password over 64 bytes is not told apart from its SHA-256 digest. -/
theorem keyEquiv_long_password (H : Bytes → Bytes) (p : Bytes) (hp : p.length > 64)
    (hH : (H p).length = 32) : hmacKeyBlock H (H p) = hmacKeyBlock H p := by
  have h1 : ¬ (H p).length > 64 := by omega
  simp [hmacKeyBlock, hp, h1]

/-- Passwords the digest functions of all configured sets do not tell apart (for scrypt sets:
    passwords with the same key block) get the same answer in every store state. -/
theorem keyEquiv_same_verdict (c : Cfg) (d : Dir) (u p q : Bytes)
    (hdig : ∀ id ps, c.lookup id = some ps → ∀ salt, ps.digest salt p = ps.digest salt q) :
    authenticate c d u p = authenticate c d u q := by
  -- the password enters `authFile` only through the digest under a configured set
  have hfile : ∀ b, authFile c b p = authFile c b q := fun b => by
    unfold authFile checkDigest
    split
    · rfl
    · split
      · rfl
      · rename_i ps hl
        split <;> simp only [hdig _ ps hl]
  simp only [authenticate, hfile]

/-- "The verdict for `u` is: exactly the passwords with the digest of `pw0` (under `salt0` and
    the set `ps`), time `now0`, some admin flag." -/
def Tracks (c : Cfg) (d : Dir) (u : Bytes) (ps : ParamSet) (salt0 pw0 : Bytes) (now0 : Int) : Prop :=
  ∃ a, ∀ p, authenticate c d u p =
    if ps.digest salt0 p = ps.digest salt0 pw0 then .ok ⟨a, false, now0⟩ else .error .wrongPassword

theorem tracks_step (c : Cfg) (d : Dir) (u : Bytes) (ps : ParamSet) (salt0 pw0 : Bytes) (now0 : Int) (op : Op)
    (h : Tracks c d u ps salt0 pw0 now0)
    (hop : op.user ≠ u ∨ (∃ st, op = .setAdmin u st) ∨ ∃ pw adm now salt, op = .add u pw adm now salt) :
    Tracks c (step c d op) u ps salt0 pw0 now0 := by
  obtain ⟨a, ha⟩ := h
  rcases hop with hne | ⟨st, rfl⟩ | ⟨pw, adm, now, salt, rfl⟩
  · -- an operation on another user: u's files are untouched
    exact ⟨a, fun p => by rw [← sameUser_authenticate c (step_other_user c d op hne) p]; exact ha p⟩
  · -- set-admin of u itself: only the reported admin flag changes
    simp only [step]
    cases hsa : setAdmin d u st with
    | error e => exact ⟨a, ha⟩
    | ok d' =>
      refine ⟨st, fun p => ?_⟩
      rw [setAdmin_authenticate c hsa p, ha p]
      by_cases hq : ps.digest salt0 p = ps.digest salt0 pw0 <;> simp [hq]
  · -- an add of u itself: u exists (its password authenticates), so the add fails and changes nothing
    have hauth := ha pw0
    simp only [if_true] at hauth
    obtain ⟨a', b, up, ts, he, _, _, _⟩ := (authenticate_ok_iff c d u pw0 _).1 hauth
    simp only [step, C02.unsupported_add_exists c d u pw salt adm a' now he]
    exact ⟨a, ha⟩

/-- **Verdict tracks the last acknowledged write, for every history.** After a successful add
    or update of `u` with password `pw0`, followed by ANY finite history of operations none of
    which is an update or remove of `u` itself (operations on any other users, set-admin of
    `u`, further — necessarily failing — adds of `u`; successful or failing), authenticating
    `u` with `p` succeeds exactly when `p` has the digest of `pw0` — and reports the time of
    that write. (An update of `u` in the remainder either succeeds, and is then itself the most
    recent write, or fails on the work area and changes nothing: `step`.) -/
theorem verdict_tracks_last_write {c : Cfg} {d0 : Dir} {u pw0 salt0 : Bytes} {now0 : Int} (w : Op)
    (hw : (∃ adm, w = .add u pw0 adm now0 salt0 ∧ ∃ d', add c d0 u pw0 adm now0 salt0 = .ok d') ∨
          (w = .update u pw0 now0 salt0 ∧ ∃ d', update c d0 u pw0 now0 salt0 = .ok d'))
    (hc : CfgOk c) (ht : timeOk now0) (h2 : List Op)
    (hh : ∀ op ∈ h2, op.user ≠ u ∨ (∃ st, op = .setAdmin u st) ∨ ∃ pw adm now salt, op = .add u pw adm now salt) :
    ∃ ps, c.lookup c.default = some ps ∧ Tracks c (run c (step c d0 w) h2) u ps salt0 pw0 now0 := by
  have h1 : ∃ ps, c.lookup c.default = some ps ∧ Tracks c (step c d0 w) u ps salt0 pw0 now0 := by
    rcases hw with ⟨adm, rfl, d', hadd⟩ | ⟨rfl, d', hup⟩
    · obtain ⟨ps, hps, hauth⟩ := add_then_auth hadd hc ht
      exact ⟨ps, hps, adm, by simpa [step, hadd] using hauth⟩
    · obtain ⟨ps, a, hps, _, hauth⟩ := update_then_auth hup hc ht
      exact ⟨ps, hps, a, by simpa [step, hup] using hauth⟩
  obtain ⟨ps, hps, htr⟩ := h1
  exact ⟨ps, hps, List.foldlRecOn (motive := (Tracks c · u ps salt0 pw0 now0)) h2 (step c) htr
    fun d hd op ho => tracks_step c d u ps salt0 pw0 now0 op hd (hh op ho)⟩

/-- Near-miss passwords never succeed unless the parameter set's digest function itself maps
    them to the same digest: immediate from the theorem above (the verdict is digest equality). -/
theorem near_miss_fails {c : Cfg} {d : Dir} {u : Bytes} {ps : ParamSet} {salt0 pw0 p : Bytes} {now0 : Int}
    (h : Tracks c d u ps salt0 pw0 now0) (hne : ps.digest salt0 p ≠ ps.digest salt0 pw0) :
    authenticate c d u p = .error .wrongPassword := by
  obtain ⟨a, ha⟩ := h
  rw [ha p]; simp [hne]


/-- `u` has no file at all. -/
def Absent (d : Dir) (u : Bytes) : Prop := get d (u ++ adminExt) = none ∧ get d (u ++ userExt) = none

theorem absent_fails (c : Cfg) {d : Dir} {u : Bytes} (h : Absent d u) :
    (∀ p, ∃ e, authenticate c d u p = .error e) ∧ (∀ pw now salt, ∃ e, update c d u pw now salt = .error e) ∧
    (∀ st, ∃ e, setAdmin d u st = .error e) := by
  rcases he : exists_ d u with e | ⟨_ | _, a⟩
  · simp [authenticate, update, setAdmin, he]
  · simp [authenticate, update, setAdmin, he]
  · -- `Exists` reports a file only if there is one
    obtain ⟨x, hx⟩ := exists_get he
    cases a <;> simp [fileName, h.1, h.2] at hx

theorem absent_step (c : Cfg) (d : Dir) (u : Bytes) (op : Op) (h : Absent d u)
    (hop : ∀ pw adm now salt, op ≠ .add u pw adm now salt) : Absent (step c d op) u := by
  by_cases hne : op.user = u
  · obtain ⟨-, hup, hsa⟩ := absent_fails c h
    cases op with
    | add v pw adm now salt => obtain rfl : v = u := hne; exact absurd rfl (hop pw adm now salt)
    | update v pw now salt => obtain rfl : v = u := hne; obtain ⟨e, he⟩ := hup pw now salt; simpa only [step, he]
    | setAdmin v st => obtain rfl : v = u := hne; obtain ⟨e, he⟩ := hsa st; simpa only [step, he]
    | remove v =>
      obtain rfl : v = u := hne
      by_cases hv : validName v = true
      · exact C02.remove_deletes d v hv
      · simpa [step, remove, hv] using h
  · have hs := step_other_user c d op hne
    exact ⟨hs.1 ▸ h.1, hs.2 ▸ h.2⟩

/-- After remove the user does not exist and nothing authenticates. -/
theorem remove_then_absent (c : Cfg) (d : Dir) (u p : Bytes) :
    ∃ e, authenticate c (remove d u) u p = .error e := by
  by_cases hv : validName u = true
  · exact (absent_fails c (C02.remove_deletes d u hv)).1 p
  · exact ⟨.invalidName, by simp [authenticate, exists_, hv]⟩

/-- **After a removal nothing authenticates, for every history**: once `u` is removed, whatever
    operations follow on any users — including updates, set-admins and further removals of `u`
    itself — no password authenticates `u` until `u` is added again. -/
theorem removed_stays_absent (c : Cfg) (d0 : Dir) (u : Bytes) (hv : validName u = true) (h2 : List Op)
    (hh : ∀ op ∈ h2, ∀ pw adm now salt, op ≠ .add u pw adm now salt) (p : Bytes) :
    ∃ e, authenticate c (run c (step c d0 (.remove u)) h2) u p = .error e :=
  (absent_fails c (List.foldlRecOn (motive := (Absent · u)) h2 (step c) (C02.remove_deletes d0 u hv)
    fun d hd op ho => absent_step c d u op hd (hh op ho))).1 p


/-! ### The full statement: the verdict is a function of the last acknowledged write

`lastWrite` replays a history and remembers, for one user, the most recent operation that was
ACKNOWLEDGED (succeeded in the state it was applied to): an add or update records its password,
salt, time; a removal forgets; failing operations, set-admin and operations on other users
change nothing. The theorem says that after ANY history authentication of `u` answers exactly
according to that record. -/

structure Written where
  pw : Bytes
  salt : Bytes
  now : Int
  deriving Repr

def lwStep (c : Cfg) (d : Dir) (u : Bytes) (lw : Option Written) : Op → Option Written
  | .add v pw adm now salt =>
    if v = u then (match add c d v pw adm now salt with | .ok _ => some ⟨pw, salt, now⟩ | .error _ => lw) else lw
  | .update v pw now salt =>
    if v = u then (match update c d v pw now salt with | .ok _ => some ⟨pw, salt, now⟩ | .error _ => lw) else lw
  | .setAdmin _ _ => lw
  | .remove v => if v = u ∧ validName v = true then none else lw

/-- The pair (directory, last acknowledged write of `u`) along a history. -/
def runLW (c : Cfg) (u : Bytes) : Dir × Option Written → List Op → Dir × Option Written
  | s, [] => s
  | (d, lw), op :: rest => runLW c u (step c d op, lwStep c d u lw op) rest

theorem runLW_fst (c : Cfg) (u : Bytes) (h : List Op) : ∀ d lw, (runLW c u (d, lw) h).1 = run c d h := by
  induction h with
  | nil => intro d lw; rfl
  | cons op rest ih => intro d lw; simp only [runLW, run, List.foldl_cons]; exact ih _ _

def opTimeOk : Op → Prop
  | .add _ _ _ now _ => timeOk now
  | .update _ _ now _ => timeOk now
  | _ => True

/-- The invariant: what the record says is what the store does. -/
def Agrees (c : Cfg) (d : Dir) (u : Bytes) : Option Written → Prop
  | none => Absent d u
  | some w => ∃ ps, c.lookup c.default = some ps ∧ Tracks c d u ps w.salt w.pw w.now

theorem agrees_step (c : Cfg) (hc : CfgOk c) (d : Dir) (u : Bytes) (lw : Option Written) (op : Op)
    (ht : opTimeOk op) (h : Agrees c d u lw) : Agrees c (step c d op) u (lwStep c d u lw op) := by
  -- operations on other users and set-admin leave the record as it is: `Tracks` / `Absent` are kept
  have keep : (op.user ≠ u ∨ ∃ st, op = .setAdmin u st) → lwStep c d u lw op = lw →
      Agrees c (step c d op) u (lwStep c d u lw op) := fun hop hl => by
    rw [hl]
    cases lw with
    | none =>
      refine absent_step c d u op h ?_
      rcases hop with hne | ⟨st, rfl⟩
      · rintro pw adm now salt rfl; exact hne rfl
      · simp
    | some w =>
      obtain ⟨ps, hps, htr⟩ := h
      exact ⟨ps, hps, tracks_step c d u ps w.salt w.pw w.now op htr (hop.imp_right .inl)⟩
  by_cases hu : op.user = u
  case neg => exact keep (.inl hu) (by cases op <;> simp only [Op.user] at hu <;> simp [lwStep, hu])
  cases op with
  | add v pw adm now salt =>
    obtain rfl : v = u := hu
    simp only [lwStep, if_true, step]
    cases hadd : add c d v pw adm now salt with
    | error e => exact h
    | ok d' =>
      obtain ⟨ps, hps, hauth⟩ := add_then_auth hadd hc ht
      exact ⟨ps, hps, adm, hauth⟩
  | update v pw now salt =>
    obtain rfl : v = u := hu
    simp only [lwStep, if_true, step]
    cases hup : update c d v pw now salt with
    | error e => exact h
    | ok d' =>
      obtain ⟨ps, a, hps, _, hauth⟩ := update_then_auth hup hc ht
      exact ⟨ps, hps, a, hauth⟩
  | setAdmin v st =>
    obtain rfl : v = u := hu
    exact keep (.inr ⟨st, rfl⟩) rfl
  | remove v =>
    obtain rfl : v = u := hu
    by_cases hv : validName v = true
    · simp only [lwStep, hv, and_self, if_true]
      exact C02.remove_deletes d v hv
    · simpa [lwStep, step, remove, hv] using h

theorem agrees_run (c : Cfg) (hc : CfgOk c) (u : Bytes) (h : List Op) (hts : ∀ op ∈ h, opTimeOk op) :
    ∀ d lw, Agrees c d u lw → Agrees c (runLW c u (d, lw) h).1 u (runLW c u (d, lw) h).2 := by
  induction h with
  | nil => intro d lw ha; exact ha
  | cons op rest ih =>
    intro d lw ha
    simp only [runLW]
    exact ih (fun o ho => hts o (by simp [ho])) _ _ (agrees_step c hc d u lw op (hts op (by simp)) ha)

/-- **C01, at full strength.** Start from any directory in which `u` has no file. After ANY
    finite history of successful and failed add / update / set-admin / remove operations on any
    users, with `lastWrite` the most recent acknowledged add or update of `u` that no later
    acknowledged removal erased:
    * if there is none, no password authenticates `u`;
    * otherwise `p` authenticates exactly when it has the digest of the password of that write
      (under that write's salt and the default parameter set), and the reported time is that
      write's time. -/
theorem verdict_is_function_of_last_write (c : Cfg) (hc : CfgOk c) (d0 : Dir) (u : Bytes)
    (h0 : Absent d0 u) (h : List Op) (hts : ∀ op ∈ h, opTimeOk op) :
    match (runLW c u (d0, none) h).2 with
    | none => ∀ p, ∃ e, authenticate c (run c d0 h) u p = .error e
    | some w => ∃ ps a, c.lookup c.default = some ps ∧ ∀ p, authenticate c (run c d0 h) u p =
        if ps.digest w.salt p = ps.digest w.salt w.pw then .ok ⟨a, false, w.now⟩ else .error .wrongPassword := by
  have hag := agrees_run c hc u h hts d0 none h0
  rw [runLW_fst] at hag
  cases hlw : (runLW c u (d0, none) h).2 with
  | none =>
    rw [hlw] at hag
    exact (absent_fails c hag).1
  | some w =>
    rw [hlw] at hag
    obtain ⟨ps, hps, a, ha⟩ := hag
    exact ⟨ps, a, hps, ha⟩

/- Non-vacuity: add, update, a second (failing) add, operations on another user, set-admin; then a removal. -/
section NonVacuity
def psN : ParamSet := ⟨[120], fun salt pw => salt ++ pw⟩
def cN : Cfg := ⟨1, [(1, psN)]⟩
def hN : List Op :=
  [.add [97] [1] false 5 [9], .update [97] [2] 6 [8], .add [97] [3] true 7 [7], .remove [98], .add [98] [4] false 8 [6], .setAdmin [97] true]
example : (runLW cN [97] ([], none) hN).2.map (·.pw) = some [2] := by decide +kernel
example : (runLW cN [97] ([], none) (hN ++ [.remove [97]])).2.map (·.pw) = none := by decide +kernel
example : (authenticate cN (run cN [] hN) [97] [2]).toOption.map (·.isAdmin) = some true := by decide +kernel
example : (authenticate cN (run cN [] hN) [97] [1]).toOption = none := by decide +kernel
end NonVacuity

end Whawty.Store.C01

/-
  C02 — Malformed, unsupported or tampered hash files never authenticate.
  Statements are about `Store.authenticate` on a directory holding ANY bytes as the user's file.
  (The model returns `Except`: a failing call has no new directory at all, so "left
  byte-identical" for refused operations is structural in the model and is checked against
  the real code by the correspondence: post-snapshot = pre-snapshot.)
-/
import Whawty.Lemmas.StoreCheck
namespace Whawty.Store.C02
open Whawty.Rec

/-- Authentication succeeds exactly when the user's file (`.admin` probed first) has a first
    line that parses as a record of a configured parameter set with matching format id whose
    stored digest equals the digest recomputed from the submitted password and stored salt —
    whatever bytes the file contains. Every other content is a clean failure (the model
    function is total). -/
theorem auth_iff_record (c : Cfg) (d : Dir) (u pw : Bytes) (r : AuthOk) :
    authenticate c d u pw = .ok r ↔
      ∃ a b h ps salt hash,
        exists_ d u = .ok (true, a) ∧ get d (fileName u a) = some (.file b) ∧
        readHead b = some h ∧ c.lookup h.paramId = some ps ∧ ps.formatId = h.formatId ∧
        decodeSaltHash h.hashStr = some (salt, hash) ∧ ps.digest salt pw = hash ∧
        r = ⟨a, decide (c.default ≠ h.paramId), h.lastChange⟩ := by
  rw [authenticate_ok_iff]
  constructor
  · rintro ⟨a, b, up, ts, he, hb, ha, hr⟩
    obtain ⟨h, ps, salt, hash, h1, h2, h3, h4, h5, h6, h7⟩ := (authFile_ok_iff c b pw up ts).mp ha
    exact ⟨a, b, h, ps, salt, hash, he, hb, h1, h2, h3, h4, h5, by rw [hr, h6, h7]⟩
  · rintro ⟨a, b, h, ps, salt, hash, he, hb, h1, h2, h3, h4, h5, hr⟩
    exact ⟨a, b, _, _, he, hb, (authFile_ok_iff c b pw _ _).mpr ⟨h, ps, salt, hash, h1, h2, h3, h4, h5, rfl, rfl⟩, hr⟩

/-- No success without a stored digest that is the full digest of the submitted password:
    in particular an empty, truncated or extended digest never matches a digest function
    whose outputs differ from it. -/
theorem auth_only_if_digest_equal (c : Cfg) (d : Dir) (u pw : Bytes) (r : AuthOk)
    (h : authenticate c d u pw = .ok r) :
    ∃ a b hd ps salt hash, get d (fileName u a) = some (.file b) ∧ readHead b = some hd ∧
      c.lookup hd.paramId = some ps ∧ decodeSaltHash hd.hashStr = some (salt, hash) ∧
      ps.digest salt pw = hash := by
  obtain ⟨a, b, hd, ps, salt, hash, _, hb, h1, h2, _, h4, h5, _⟩ := (auth_iff_record c d u pw r).mp h
  exact ⟨a, b, hd, ps, salt, hash, hb, h1, h2, h4, h5⟩

/-- A record produced by an independent implementation of doc/SCHEMA.md (`formatLine`,
    `hashStrOf`, `B64.encode` are the model's own codec) authenticates with its password,
    whatever auxiliary data follows the first line. -/
theorem foreign_record_accepted (c : Cfg) (d : Dir) (u pw salt aux : Bytes) (a : Bool) (ts : Int) (pid : Nat)
    (ps : ParamSet) (he : exists_ d u = .ok (true, a))
    (hfile : get d (fileName u a) =
      some (.file (formatLine ps.formatId ts pid (hashStrOf salt (ps.digest salt pw)) ++ aux)))
    (hps : c.lookup pid = some ps) (hf : ∀ ch ∈ ps.formatId, ch ≠ colon ∧ ch ≠ nl)
    (h1 : -(2 ^ 63 : Int) ≤ ts) (h2 : ts < 2 ^ 63) (hp : pid < 2 ^ 64) :
    authenticate c d u pw = .ok ⟨a, decide (c.default ≠ pid), ts⟩ := by
  apply (auth_iff_record c d u pw _).mpr
  refine ⟨a, _, ⟨ps.formatId, ts, pid, hashStrOf salt (ps.digest salt pw) ++ [nl]⟩, ps, salt, ps.digest salt pw,
    he, hfile, readHead_formatLine _ _ _ _ _ _ hf h1 h2 hp, hps, rfl, decodeSaltHash_hashStrOf _ _, rfl, rfl⟩

/-- Unsupported or invalid hash file of `u`: add reports "exists". -/
theorem unsupported_add_exists (c : Cfg) (d : Dir) (u pw salt : Bytes) (adm a : Bool) (now : Int)
    (he : exists_ d u = .ok (true, a)) : add c d u pw adm now salt = .error .exists_ := by
  simp [add, he]

/-- Unsupported or invalid hash file of `u`: update is refused. -/
theorem unsupported_update_refused (c : Cfg) (d : Dir) (u pw salt : Bytes) (a : Bool) (now : Int) (x : Node)
    (he : exists_ d u = .ok (true, a)) (hx : get d (fileName u a) = some x) (hs : supported c x = false) :
    update c d u pw now salt = .error .unsupported := by
  cases x with
  | dir => simp [update, he, hx]
  | file b => simp [update, he, hx, hs]

/-- Remove deletes the user's files whatever they contain. -/
theorem remove_deletes (d : Dir) (u : Bytes) (hv : validName u = true) :
    get (remove d u) (u ++ adminExt) = none ∧ get (remove d u) (u ++ userExt) = none := by
  simp [get_remove, hv, append_adminExt, append_userExt]

/- Non-vacuity: a concrete record of a toy parameter set authenticates; a tampered one does not. -/
def toySet : ParamSet := { formatId := [116], digest := fun salt pw => salt ++ pw }
def toyCfg : Cfg := { default := 1, params := [(1, toySet)] }
def toyDir : Dir := [([97] ++ userExt, .file (formatLine [116] 5 1 (hashStrOf [1, 2] [1, 2, 9]) ++ [120]))]
example : authenticate toyCfg toyDir [97] [9] = .ok ⟨false, false, 5⟩ := by
  apply foreign_record_accepted toyCfg toyDir [97] [9] [1, 2] [120] false 5 1 toySet
  · rfl
  · rfl
  · rfl
  · decide
  · decide
  · decide
  · decide


/-! ### Unsupported and invalid hash files are hidden from `list` -/

/-- Every entry `List` reports is backed by a file of that user with that extension whose hash
    is SUPPORTED (a record of a configured parameter set with matching format id, non-empty salt
    and digest). Hence a file with an unsupported or invalid hash is never listed — whatever
    else the directory holds, in whatever order `readdir` returns it. -/
theorem list_only_supported (c : Cfg) (d : Dir) (l : List ListEntry) (h : list c d = some l) :
    ∀ e ∈ l, ∃ x, (fileName e.user e.isAdmin, x) ∈ d ∧ supported c x = true :=
  fun e he => (list_entry_from_file c d l h e he).2

/-- In particular: if the only file of `u` is unsupported, `u` is not in the list. -/
theorem unsupported_hidden_from_list (c : Cfg) (d : Dir) (l : List ListEntry) (h : list c d = some l) (u : Bytes)
    (hu : ∀ a x, (fileName u a, x) ∈ d → supported c x = false) : ∀ e ∈ l, e.user ≠ u := by
  intro e he heq
  obtain ⟨x, hx, hs⟩ := list_only_supported c d l h e he
  rw [heq] at hx
  rw [hu _ _ hx] at hs
  exact absurd hs (by simp)

/-- `ListFull` shows every file with a user-file name, and its "supported" column is exactly the
    supported-format predicate of that file: an unsupported or invalid hash is SHOWN, as unsupported. -/
theorem listFull_reports_support (c : Cfg) (d : Dir) (l : List FullEntry) (h : listFull c d = some l) :
    ∀ e ∈ l, ∃ x, (fileName e.user e.isAdmin, x) ∈ d ∧ e.supported = supported c x ∧ e.valid = validName e.user := by
  refine foldl_some_invariant _ (fun _ => rfl) (P := fun l => ∀ e ∈ l, ∃ x, (fileName e.user e.isAdmin, x) ∈ d ∧
    e.supported = supported c x ∧ e.valid = validName e.user) h (by simp) ?_
  intro y hy l l' hl hs e he
  simp only at hs
  split at hs
  · cases hs; exact hl e he
  · split at hs <;> cases hs
    rename_i valid u adm hc
    obtain ⟨hv, hn⟩ := checkUserFile_eq_some.1 hc
    rcases List.mem_append.1 he with he | he
    · exact hl e (List.mem_filter.1 he).1
    · cases List.mem_singleton.1 he
      exact ⟨y.2, hn ▸ hy, rfl, hv⟩

end Whawty.Store.C02

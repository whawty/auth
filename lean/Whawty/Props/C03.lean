/-
  C03 — Only schema-valid user names are usable; all effects stay inside the base dir.
  The model is the repaired code (name grammar enforced in every UserHash operation, commit
  "fix: store validates the user name in every UserHash operation"; `Check` skips invalid
  names, commit "fix: store check ignores files with invalid user names").
-/
import Whawty.Lemmas.StoreCheck
import Whawty.Lemmas.Path
namespace Whawty.Store.C03

/-- Every operation given a name outside the grammar fails, or (remove) is a no-op; nothing
    authenticates; the directory is not changed (a failing operation has no result directory). -/
theorem invalid_name_noop (c : Cfg) (d : Dir) (u pw salt : Bytes) (adm st : Bool) (now : Int)
    (h : validName u = false) :
    exists_ d u = .error .invalidName ∧
    authenticate c d u pw = .error .invalidName ∧
    add c d u pw adm now salt = .error .invalidName ∧
    update c d u pw now salt = .error .invalidName ∧
    setAdmin d u st = .error .invalidName ∧
    remove d u = d := by
  have he : exists_ d u = .error .invalidName := by simp [exists_, h]
  refine ⟨he, ?_, ?_, ?_, ?_, ?_⟩
  · simp [authenticate, he]
  · simp [add, he]
  · simp [update, he]
  · simp [setAdmin, he]
  · simp [remove, h]

/-- The grammar `^[A-Za-z0-9][-_.@A-Za-z0-9]*$` excludes every byte that matters to a path:
    '/', NUL, newline; and the names "", "." and "..". -/
theorem valid_name_has_no_path_syntax (u : Bytes) (h : validName u = true) :
    (47 : Byte) ∉ u ∧ (0 : Byte) ∉ u ∧ (10 : Byte) ∉ u ∧ u ≠ [] ∧ u ≠ [46] ∧ u ≠ [46, 46] := by
  have hchars : ∀ x ∈ u, isNameChar x = true := by
    cases u with
    | nil => simp [validName] at h
    | cons c rest =>
      simp only [validName, Bool.and_eq_true, List.all_eq_true] at h
      simpa [isNameChar, h.1] using h.2
  have plain : ∀ x : Byte, isNameChar x = true → x ≠ 47 ∧ x ≠ 0 ∧ x ≠ 10 := fun x hx => by
    refine ⟨?_, ?_, ?_⟩ <;> (rintro rfl; revert hx; decide)
  refine ⟨fun hm => (plain _ (hchars _ hm)).1 rfl, fun hm => (plain _ (hchars _ hm)).2.1 rfl,
    fun hm => (plain _ (hchars _ hm)).2.2 rfl, ?_, ?_, ?_⟩ <;> (rintro rfl; revert h; decide)

/-- Whatever the (valid) name, password or directory content, an operation changes no entry
    of the base directory other than `<name>.user`, `<name>.admin` and `.tmp`. -/
theorem effects_confined_add {c : Cfg} {d d' : Dir} {u pw salt : Bytes} {adm : Bool} {now : Int}
    (h : add c d u pw adm now salt = .ok d') (n : Bytes)
    (h1 : n ≠ u ++ userExt) (h2 : n ≠ u ++ adminExt) (h3 : n ≠ tmpName) : get d' n = get d n := by
  obtain ⟨ps, a, -, -, hw⟩ := add_ok h
  exact hw.get_ne (by cases adm <;> assumption) h3

theorem effects_confined_update {c : Cfg} {d d' : Dir} {u pw salt : Bytes} {now : Int}
    (h : update c d u pw now salt = .ok d') (n : Bytes)
    (h1 : n ≠ u ++ userExt) (h2 : n ≠ u ++ adminExt) (h3 : n ≠ tmpName) : get d' n = get d n := by
  obtain ⟨ps, a, old, -, -, -, -, hw⟩ := update_ok h
  exact hw.get_ne (by cases a <;> assumption) h3

theorem effects_confined_remove (d : Dir) (u n : Bytes)
    (h1 : n ≠ u ++ userExt) (h2 : n ≠ u ++ adminExt) : get (remove d u) n = get d n := by
  rw [append_userExt] at h1
  rw [append_adminExt] at h2
  simp [get_remove, h1, h2]

theorem effects_confined_setAdmin {d d' : Dir} {u : Bytes} {st : Bool}
    (h : setAdmin d u st = .ok d') (n : Bytes)
    (h1 : n ≠ u ++ userExt) (h2 : n ≠ u ++ adminExt) : get d' n = get d n := by
  have hf : ∀ a, n ≠ fileName u a := fun a => by cases a <;> assumption
  obtain ⟨a, x, -, -, ⟨-, rfl⟩ | ⟨-, rfl⟩⟩ := setAdmin_ok h
  · rfl
  · simp [hf]

/-- `List` never shows a file whose stem is not a valid user name. -/
theorem list_only_valid_names (c : Cfg) (d : Dir) (l : List ListEntry) (h : list c d = some l) :
    ∀ e ∈ l, validName e.user = true :=
  fun e he => (list_entry_from_file c d l h e he).1

/-- An invalid-named file never counts as the administrator a valid store requires. -/
theorem invalid_named_admin_never_counts (c : Cfg) (e : Bytes × Node) (u : Bytes) (adm : Bool)
    (hc : checkUserFile e.1 = some (false, u, adm)) : entryAdmin c e = false := by
  simp [entryAdmin, hc]

/- Non-vacuity: names of the classes in the property's quantifier are invalid. -/
example : validName [46, 46, 47, 98] = false := by decide      -- "../b"
example : validName [] = false := by decide
example : validName [97, 10] = false := by decide              -- "a\n"
example : validName [46, 47, 97] = false := by decide          -- "./a"
example : validName [97, 46, 98, 64, 99] = true := by decide   -- "a.b@c"

/-! ### The path the code computes for a valid name is an entry of the base directory

`UserHash.getFilename` is `filepath.Join(BaseDir, user) + ext` — a LEXICAL computation
(`Model/Path.lean`: byte-for-byte model of `filepath.Clean` / `Join`, compared with Go on every
run). For every base directory string whatsoever and every valid name, the result has exactly
the components of the cleaned base directory followed by the single component `user ++ ext`:
it names the entry `<user><ext>` directly inside the base directory, which is what the
directory-map model (`Store.Dir`) and the trace vocabulary (`Persist.Name.U/.A`) assume. -/
namespace Path
open Whawty.Path

theorem valid_is_plain (u : Bytes) (h : validName u = true) : Plain u := by
  obtain ⟨h1, _, _, h4, h5, h6⟩ := valid_name_has_no_path_syntax u h
  exact ⟨h4, h5, h6, h1⟩

/-- **The file a valid name addresses.** -/
theorem file_path_is_entry_of_base (base u : Bytes) (adm : Bool) (hb : base ≠ []) (hv : validName u = true) :
    getFilename base u (if adm then adminExt else userExt) =
      render (isRooted base) (comps base ++ [fileName u adm]) :=
  getFilename_plain base u _ hb (valid_is_plain u hv)

/-- In the usual case (the cleaned base directory is neither "/" nor "."): literally
    `<clean base>/<user><ext>`. -/
theorem file_path_literal (base u : Bytes) (adm : Bool) (hb : base ≠ []) (hv : validName u = true)
    (hc : comps base ≠ []) :
    getFilename base u (if adm then adminExt else userExt) = clean base ++ slash :: fileName u adm := by
  rw [file_path_is_entry_of_base base u adm hb hv, clean_eq_render base hb, render_append_single _ _ _ hc]

/- Why the grammar check is needed in EVERY operation (defect D1, repaired): for names outside
   the grammar the same computation leaves the base directory or aliases another entry. -/
example : join2 (str "/srv/store") (str "../other/bob") = str "/srv/other/bob" := by decide +kernel
example : join2 (str "/srv/store") (str "./admin") = str "/srv/store/admin" := by decide +kernel
example : getFilename (str "/srv/store") [] adminExt = str "/srv/store.admin" := by decide +kernel
example : getFilename (str "/srv/store") (str "a/../bob") userExt = str "/srv/store/bob.user" := by decide +kernel
/- Non-vacuity of the theorem above, on a base directory that itself needs cleaning. -/
example : getFilename (str "/srv//x/../store/") (str "alice") userExt = str "/srv/store/alice.user" := by decide +kernel
example : comps (str "/srv//x/../store/") = [str "srv", str "store"] := by decide +kernel

end Path

end Whawty.Store.C03

/-
  C04 — Every frontend returns exactly the store's verdict for the submitted credentials.
  Frontends are functions of the abstract store's verdict `storeAuth` (WebApi.lean); the wire
  codecs are C13's (saslauthd) and the ones of the Go standard library (trusted transports).
-/
import Whawty.Model.WebApi
import Whawty.Lemmas.Record
import Whawty.Props.C13
namespace Whawty.WebApi.C04
open Whawty.Rec

/-- saslauthd: the callback approves exactly when the store approves these very bytes. -/
theorem sasl_front (st : St) (l p : Bytes) : saslFront st l p = (storeAuth st l p).isSome := rfl

/-- … and over the wire: for fields within the transport's limits the server decodes exactly
    what the client encoded (C13), so the verdict is the store's for exactly those bytes. -/
theorem sasl_front_wire (st : St) (r : Sasl.Request) (enc : Bytes) (hf : Sasl.C13.fieldsOk r)
    (hl : r.login ≠ []) (hp : r.password ≠ []) (henc : r.encode = some enc) :
    (Sasl.Request.decode enc).map (fun q => saslFront st q.1.login q.1.password) =
      some ((storeAuth st r.login r.password).isSome) := by
  have := Sasl.C13.decode_encode_request r enc [] hf hl hp henc
  simp only [List.append_nil] at this
  simp [this, saslFront]

/-- HTTP basic-auth: for a user name without a colon the verdict is the store's for exactly
    (user, password) — whatever bytes the password has (further colons included). -/
theorem basic_front (st : St) (l p : Bytes) (h : colon ∉ l) :
    basicFront st (l ++ colon :: p) = (storeAuth st l p).isSome := by
  simp [basicFront, cut_append h]

/-- LDAP simple bind: the verdict is the store's for the bind name up to the first '@'. -/
theorem ldap_front (st : St) (dn p : Bytes) :
    ldapFront st dn p = (storeAuth st (dn.takeWhile (· ≠ 64)) p).isSome := rfl

theorem ldap_front_no_at (st : St) (dn p : Bytes) (h : (64 : Byte) ∉ dn) :
    ldapFront st dn p = (storeAuth st dn p).isSome := by
  have hw : dn.takeWhile (· ≠ 64) = dn := by
    simpa using List.takeWhile_append_of_pos (l₂ := []) fun a ha => by simpa using fun e : a = 64 => h (e ▸ ha)
  rw [ldap_front, hw]

/-- HTTP API: a token is issued (2xx) exactly when the store approves the decoded fields. -/
theorem api_front (st : St) (now : Int) (n c : Bytes) (r : Req) (hep : r.ep = .authenticate)
    (hb : r.bodyOk = true) (hu : r.username ≠ []) (hp : r.password ≠ []) :
    (step st now n c r).2.ok = (storeAuth st r.username r.password).isSome := by
  simp only [step, authorize, hb, hep, List.isEmpty_eq_false_iff.mpr hu, List.isEmpty_eq_false_iff.mpr hp,
    Bool.not_true, Bool.false_eq_true, if_false, Bool.or_self]
  cases storeAuth st r.username r.password <;> rfl

/-- No frontend alters the credentials in a way that changes the verdict: the store verdict
    depends on exactly the bytes given — a user name that differs in case, whitespace or by an
    alias is a different name. (Invalid names are denials.) -/
theorem invalid_name_is_denial (st : St) (u p : Bytes) (h : Store.validName u = false) :
    storeAuth st u p = none := by
  simp [storeAuth, h]

/-- An internal error is always a denial: the verdict type has no third value, and every
    frontend maps `none` (error or wrong password alike) to a denial. -/
theorem error_is_denial (st : St) (u p : Bytes) (h : storeAuth st u p = none) :
    saslFront st u p = false ∧ (colon ∉ u → basicFront st (u ++ colon :: p) = false) ∧
    ((64 : Byte) ∉ u → ldapFront st u p = false) := by
  refine ⟨by simp [saslFront, h], fun hc => by rw [basic_front st u p hc, h]; rfl,
    fun ha => by rw [ldap_front_no_at st u p ha, h]; rfl⟩

/- Non-vacuity -/
def demo : St := { users := [⟨[97], false, [58, 120]⟩], factory := ⟨[], 600⟩ }   -- user "a", password ":x"
example : basicFront demo [97, 58, 58, 120] = true := by decide     -- "a::x" splits at the FIRST colon
example : ldapFront demo [97, 64, 98] [58, 120] = true := by decide  -- "a@b" binds as "a"
example : saslFront demo [65] [58, 120] = false := by decide         -- "A" is not "a"

end Whawty.WebApi.C04

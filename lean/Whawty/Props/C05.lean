/-
  C05 — The saslauthd server fails closed on every byte stream.
  `handle true` is the server of the repaired tree (reply message clipped to the part limit,
  commit "fix: sasl server clips the reply message"); `handle false` is the pinned code, for
  which the reply clauses are false (defect D3) — negations below.
-/
import Whawty.Lemmas.SaslServer
import Whawty.Lemmas.Pam
import Whawty.Props.C13
namespace Whawty.SaslServer.C05
open Whawty.Sasl

/-- The callback is called at most once, and only with exactly the four decoded fields of
    a stream that decodes completely. -/
theorem cb_at_most_once_exact_fields (clip : Bool) (cs : List Bytes) (cb : Request → CbOutcome) (t : Bytes) :
    (handle clip cs cb t).cbCalls.length ≤ 1 ∧
    ∀ q ∈ (handle clip cs cb t).cbCalls, ∃ n, Request.decode cs.flatten = some (q, n) := by
  simp only [handle]
  cases h : Request.decodeChunked cs with
  | none => simp
  | some qn =>
    refine ⟨Nat.le_refl 1, fun q' hq' => ⟨qn.2, ?_⟩⟩
    cases List.mem_singleton.mp hq'
    exact C13.chunked_result_is_stream_result cs qn h

/-- Verdict the server is supposed to convey. -/
def verdict (cs : List Bytes) (cb : Request → CbOutcome) : Bool :=
  match Request.decode cs.flatten with
  | some (q, _) => (cb q).ok && (cb q).err.isNone
  | none => false

/-- At most one reply is written, then the connection is closed (both code versions). -/
theorem at_most_one_reply_then_close (clip : Bool) (cs : List Bytes) (cb : Request → CbOutcome) (t : Bytes) :
    (handle clip cs cb t).replies.length ≤ 1 ∧ (handle clip cs cb t).closed = true := by
  simp only [handle]
  split <;> simp

/-- Repaired server: exactly one length-prefixed reply, for every callback result and message. -/
theorem one_reply_then_close (cs : List Bytes) (cb : Request → CbOutcome) (t : Bytes) :
    ∃ text, (handle true cs cb t).replies = [be16 text.length ++ text] ∧ text.length ≤ maxLen ∧
      (handle true cs cb t).closed = true := by
  have h256 := clipped_text_le (Request.decodeChunked cs) cb t
  refine ⟨(response true (Request.decodeChunked cs) cb t).text, ?_, h256, rfl⟩
  simp only [handle]
  rw [Response.encode_of_le h256]

/-- Repaired server: the reply is decodable by the bundled Go client and by the PAM module,
    and both obtain the verdict (positive only if the request decoded completely and the
    callback approved without error). -/
theorem reply_decodable (cs : List Bytes) (cb : Request → CbOutcome) (t : Bytes) (hsf : stallFree 0 cs = true) :
    ∀ reply ∈ (handle true cs cb t).replies,
      (∃ m, Response.decode reply = some ⟨verdict cs cb, m⟩) ∧
      Pam.verdictOfReply reply = (if verdict cs cb then Pam.PAM_SUCCESS else Pam.PAM_AUTH_ERR) := by
  intro reply hmem
  have henc := mem_replies hmem
  have h256 := clipped_text_le (Request.decodeChunked cs) cb t
  have hres : (response true (Request.decodeChunked cs) cb t).result = verdict cs cb := by
    rw [response_result, C13.fragment_independent_request cs hsf]
    rfl
  generalize response true (Request.decodeChunked cs) cb t = r at *
  constructor
  · refine ⟨r.message, ?_⟩
    rw [← hres, ← List.append_nil reply, Response.decode_encode henc, if_pos h256]
  · rw [Response.encode_of_le h256] at henc
    cases henc
    rw [Pam.verdictOfReply_wire r.text h256, Response.text_take2, ← hres]
    cases r.result <;> rfl

/-- The reply is positive only if the request decoded completely and the callback approved
    without error (both code versions, whenever the reply is decodable at all). -/
theorem positive_only_if (clip : Bool) (cs : List Bytes) (cb : Request → CbOutcome) (t m : Bytes) :
    ∀ reply ∈ (handle clip cs cb t).replies, Response.decode reply = some ⟨true, m⟩ →
      ∃ q n, Request.decode cs.flatten = some (q, n) ∧ (cb q).ok = true ∧ (cb q).err = none := by
  intro reply hmem hdec
  rw [← List.append_nil reply, Response.decode_encode (mem_replies hmem)] at hdec
  split at hdec
  · have htrue := congrArg Response.result (Option.some.inj hdec)
    rw [response_result] at htrue
    split at htrue
    · rename_i q n hq
      simp only [Bool.and_eq_true, Option.isNone_iff_eq_none] at htrue
      exact ⟨q, n, C13.chunked_result_is_stream_result cs (q, n) hq, htrue⟩
    · cases htrue
  · cases hdec

/-- The server's behaviour depends on the client's stream only through the bytes, not
    through their fragmentation or write timing. -/
theorem fragmentation_irrelevant (clip : Bool) (cs ds : List Bytes) (cb : Request → CbOutcome) (t : Bytes)
    (h : cs.flatten = ds.flatten) (hc : stallFree 0 cs = true) (hd : stallFree 0 ds = true) :
    handle clip cs cb t = handle clip ds cb t := by
  simp only [handle, C13.fragment_independent_request _ hc, C13.fragment_independent_request _ hd, h]

/-- Pinned code (no clipping), defect D3: a message longer than 253 bytes gives a reply the
    Go client cannot decode; one longer than 65532 bytes gives no reply at all. -/
theorem pinned_reply_undecodable (cs : List Bytes) (cb : Request → CbOutcome) (t : Bytes)
    (q : Request) (n : Nat) (hq : Request.decode cs.flatten = some (q, n)) (he : (cb q).err = none)
    (hlong : maxMsg < (cb q).msg.length) (hsf : stallFree 0 cs = true) :
    ∀ reply ∈ (handle false cs cb t).replies, Response.decode reply = none := by
  intro reply hmem
  rw [← List.append_nil reply, Response.decode_encode (mem_replies hmem),
    C13.fragment_independent_request _ hsf, hq, response_unclipped he]
  exact if_neg (Nat.not_le.mpr (Response.lt_text_length hlong))

theorem pinned_no_reply (cs : List Bytes) (cb : Request → CbOutcome) (t : Bytes)
    (q : Request) (n : Nat) (hq : Request.decode cs.flatten = some (q, n)) (he : (cb q).err = none)
    (hlong : 65532 < (cb q).msg.length) (hsf : stallFree 0 cs = true) : (handle false cs cb t).replies = [] := by
  simp only [handle, C13.fragment_independent_request _ hsf, hq, response_unclipped he]
  rw [Response.encode_eq, if_neg (Nat.not_le.mpr (Response.lt_text_length hlong))]

/-- What a socket delivers: a read returns at least one byte (or the end of the stream); such reads
    have no run of zero-length reads at all (`Sasl.stallFree_of_nonempty`). So for connections (the property's "all byte streams a client can send, in any
    fragmentation") the server's reply carries exactly the verdict, whatever the fragmentation. -/
theorem socket_reply_decodable (cs : List Bytes) (cb : Request → CbOutcome) (t : Bytes) (h : ∀ c ∈ cs, c ≠ []) :
    ∀ reply ∈ (handle true cs cb t).replies,
      (∃ m, Response.decode reply = some ⟨verdict cs cb, m⟩) ∧
      Pam.verdictOfReply reply = (if verdict cs cb then Pam.PAM_SUCCESS else Pam.PAM_AUTH_ERR) :=
  reply_decodable cs cb t (stallFree_of_nonempty cs h 0)

theorem socket_fragmentation_irrelevant (clip : Bool) (cs ds : List Bytes) (cb : Request → CbOutcome) (t : Bytes)
    (h : cs.flatten = ds.flatten) (hc : ∀ c ∈ cs, c ≠ []) (hd : ∀ c ∈ ds, c ≠ []) :
    handle clip cs cb t = handle clip ds cb t :=
  fragmentation_irrelevant clip cs ds cb t h (stallFree_of_nonempty cs hc 0) (stallFree_of_nonempty ds hd 0)


/- Non-vacuity: a fragmented well-formed request, approving callback. -/
example : (handle true [[0, 1, 97, 0], [1, 98, 0, 0, 0], [0]] (fun _ => ⟨true, [104, 105], none⟩) []).replies
    = [[0, 5, 79, 75, 32, 104, 105]] := by
  rw [handle, C13.fragment_independent_request _ (by decide)]
  decide +kernel

end Whawty.SaslServer.C05

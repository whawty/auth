/-
  C06 — Web API: management actions require the right session or password.
  `WebApi.step` = `authorize` (the handlers' gate logic) followed by `perform` (the store
  call); sessions are checked by the ideal-AEAD factory (C07), so "a valid, unexpired session
  token issued by this instance to U with admin flag A" is
  `checkText st.factory now session = some (U, A)`.
-/
import Whawty.Model.WebApi
namespace Whawty.WebApi.C06
open Whawty.Session

theorem step_cases (st : St) (now : Int) (n c : Bytes) (r : Req) :
    step st now n c r = (st, deny) ∨
    ∃ a st', authorize st now r = some a ∧ perform st now n c r a = some st' ∧
      step st now n c r = (st', respOf a) := by
  unfold step
  split
  · exact Or.inl rfl
  · split
    · exact Or.inl rfl
    · exact Or.inr ⟨_, _, ‹_›, ‹_›, rfl⟩

/-- A refused request (non-2xx) changes nothing, discloses no list and issues no token. -/
theorem refused_changes_nothing (st : St) (now : Int) (n c : Bytes) (r : Req)
    (h : (step st now n c r).2.ok = false) :
    (step st now n c r).1 = st ∧ (step st now n c r).2.list = false ∧ (step st now n c r).2.token = false := by
  rcases step_cases st now n c r with e | ⟨a, _, _, _, e⟩ <;> rw [e] at h ⊢
  · exact ⟨rfl, rfl, rfl⟩
  · cases a <;> cases h

theorem isAdminSession_iff {sess : Option (Bytes × Bool)} :
    isAdminSession sess = true ↔ ∃ who, sess = some (who, true) := by
  unfold isAdminSession
  split <;> simp_all

/-- The request carries a session field that is a valid, unexpired token of this instance with
    the admin flag set. -/
def AdminSession (st : St) (now : Int) (r : Req) : Prop :=
  r.session ≠ [] ∧ ∃ who, checkText st.factory now r.session = some (who, true)

/-- The handlers' gates, endpoint by endpoint: which requests are granted, and what.
    Add, remove, set-admin, list and list-full: an admin session. Update: exactly one of session /
    old password; with a session, an admin token or one issued to the very user being updated, and
    a non-empty new password; with the old password, that user's current password. -/
theorem authorize_eq_some {st : St} {now : Int} {r : Req} {a : Action} :
    authorize st now r = some a ↔ r.bodyOk = true ∧
      match r.ep with
      | .authenticate => r.username ≠ [] ∧ r.password ≠ [] ∧
          ∃ adm, storeAuth st r.username r.password = some adm ∧ a = .issue adm
      | .add => AdminSession st now r ∧ a = .add ∧ r.username ≠ [] ∧ r.password ≠ []
      | .remove => AdminSession st now r ∧ a = .remove ∧ r.username ≠ []
      | .setAdmin => AdminSession st now r ∧ a = .setAdmin ∧ r.username ≠ []
      | .list => AdminSession st now r ∧ a = .list
      | .listFull => AdminSession st now r ∧ a = .list
      | .update => r.username ≠ [] ∧
          ((r.session ≠ [] ∧ r.oldpw = [] ∧ r.newpw ≠ [] ∧ a = .update ∧
              ∃ who adm, checkText st.factory now r.session = some (who, adm) ∧ (adm = true ∨ who = r.username)) ∨
           (r.session = [] ∧ r.oldpw ≠ [] ∧ (storeAuth st r.username r.oldpw).isSome = true ∧
              a = if r.newpw = [] then .upgradeOnly else .update)) := by
  rw [authorize, Option.ite_none_left_eq_some, Bool.not_eq_true', Bool.not_eq_false]
  refine and_congr_right fun _ => ?_
  unfold AdminSession
  cases r.ep
  case authenticate => simp [Option.map_eq_some_iff, and_assoc, @eq_comm _ a]
  case update => grind
  all_goals
    simp only [Option.ite_none_left_eq_some, Option.ite_none_right_eq_some, Bool.or_eq_true, not_or, List.isEmpty_iff,
      isAdminSession_iff]
    grind

/-- Add, remove, set-admin, list and list-full take effect (2xx, store change, or list
    disclosure) only with such a session. -/
theorem mgmt_requires_admin_session (st : St) (now : Int) (n c : Bytes) (r : Req)
    (hep : r.ep = .add ∨ r.ep = .remove ∨ r.ep = .setAdmin ∨ r.ep = .list ∨ r.ep = .listFull)
    (h : (step st now n c r).2.ok = true ∨ (step st now n c r).1 ≠ st ∨ (step st now n c r).2.list = true) :
    r.bodyOk = true ∧ r.session ≠ [] ∧ ∃ who, checkText st.factory now r.session = some (who, true) := by
  rcases step_cases st now n c r with e | ⟨a, _, ha, _, _⟩
  · simp [e, deny] at h
  · obtain ⟨hb, hg⟩ := authorize_eq_some.mp ha
    rcases hep with e | e | e | e | e <;> simp only [e] at hg <;> exact ⟨hb, hg.1⟩

/-- A password update changes the store only through that gate. -/
theorem update_requires (st : St) (now : Int) (n c : Bytes) (r : Req) (hep : r.ep = .update)
    (h : (step st now n c r).1 ≠ st) :
    r.newpw ≠ [] ∧
    ((r.oldpw = [] ∧ ∃ who adm, checkText st.factory now r.session = some (who, adm) ∧ (adm = true ∨ who = r.username)) ∨
     (r.session = [] ∧ (storeAuth st r.username r.oldpw).isSome = true)) := by
  rcases step_cases st now n c r with e | ⟨a, st', ha, hp, e⟩ <;> rw [e] at h
  · exact absurd rfl h
  · have hg := (authorize_eq_some.mp ha).2
    simp only [hep] at hg
    rcases hg.2 with ⟨_, ho, hn, _, hs⟩ | ⟨hs, _, hauth, rfl⟩
    · exact ⟨hn, Or.inl ⟨ho, hs⟩⟩
    · refine ⟨fun hn => ?_, Or.inr ⟨hs, hauth⟩⟩
      -- with only the old password and no new one nothing is written
      rw [if_pos hn] at hp
      cases hp
      exact h rfl

theorem addUser_factory {st st' : St} {u p : Bytes} {a : Bool} (h : addUser st u p a = some st') :
    st'.factory = st.factory := by
  simp only [addUser, Option.ite_none_left_eq_some, Option.some.injEq] at h
  rw [← h.2.2]

theorem updateUser_factory {st st' : St} {u p : Bytes} (h : updateUser st u p = some st') :
    st'.factory = st.factory := by
  simp only [updateUser, Option.ite_none_left_eq_some] at h
  split at h <;> cases h.2
  rfl

theorem setAdminUser_factory {st st' : St} {u : Bytes} {a : Bool} (h : setAdminUser st u a = some st') :
    st'.factory = st.factory := by
  simp only [setAdminUser, Option.ite_none_left_eq_some] at h
  split at h <;> cases h.2
  rfl

theorem removeUser_factory (st : St) (u : Bytes) : (removeUser st u).factory = st.factory := by
  unfold removeUser
  split <;> rfl

theorem perform_keeps_factory {st st' : St} {now : Int} {n c : Bytes} {r : Req} {a : Action}
    (hp : perform st now n c r a = some st') : st'.factory = st.factory ∨ ∃ adm, a = .issue adm := by
  cases a with
  | issue adm => exact .inr ⟨adm, rfl⟩
  | add => exact .inl (addUser_factory hp)
  | update => exact .inl (updateUser_factory hp)
  | setAdmin => exact .inl (setAdminUser_factory hp)
  | remove => cases hp; exact .inl (removeUser_factory ..)
  | upgradeOnly | list => cases hp; exact .inl rfl

theorem respOf_token {a : Action} (h : (respOf a).token = true) : ∃ adm, a = .issue adm := by
  cases a with
  | issue adm => exact ⟨adm, rfl⟩
  | _ => cases h

/-- A token is issued (the factory changes) only by `/api/authenticate`, only after a
    successful password authentication, and it names that user and the admin status the store
    reported at that moment. -/
theorem token_only_after_auth (st : St) (now : Int) (n c : Bytes) (r : Req)
    (h : (step st now n c r).1.factory ≠ st.factory ∨ (step st now n c r).2.token = true) :
    r.ep = .authenticate ∧ ∃ a, storeAuth st r.username r.password = some a ∧
      (step st now n c r).1.factory = (generate st.factory r.username a now n c).1 := by
  rcases step_cases st now n c r with e | ⟨a, st', ha, hp, e⟩ <;> rw [e] at h ⊢
  · simp [deny] at h
  · obtain ⟨adm, rfl⟩ := h.elim (perform_keeps_factory hp).resolve_left respOf_token
    -- which only `/api/authenticate` grants, after the store approved
    have hg := (authorize_eq_some.mp ha).2
    cases hep : r.ep <;> simp only [hep] at hg
    case authenticate =>
      obtain ⟨_, _, adm', hs, hadm⟩ := hg
      cases hadm; cases hp
      exact ⟨rfl, adm, hs, rfl⟩
    case update =>
      rcases hg.2 with ⟨_, _, _, hu, _⟩ | ⟨_, _, _, hu⟩
      · cases hu
      · split at hu <;> cases hu
    all_goals simp at hg

/-- Closure over histories: whatever sequence of requests is processed, every token the
    factory ever seals beyond the initial ones was sealed by a successful password login. -/
def runReqs (st : St) : List (Int × Bytes × Bytes × Req) → St
  | [] => st
  | (now, n, c, r) :: rest => runReqs (step st now n c r).1 rest

/-- Each sealed entry beyond the initial ones was sealed for an `/api/authenticate` request of
    the history, under that request's nonce, ciphertext, time and user name, with the admin
    status the store reported for its password in the state that request met. -/
theorem sealed_by_login (st : St) (reqs : List (Int × Bytes × Bytes × Req)) :
    ∀ s ∈ (runReqs st reqs).factory.sealed, s ∈ st.factory.sealed ∨
      ∃ pre now n c r post a, reqs = pre ++ (now, n, c, r) :: post ∧ r.ep = .authenticate ∧
        storeAuth (runReqs st pre) r.username r.password = some a ∧
        s = ⟨n, c, plainOf r.username a now⟩ := by
  induction reqs generalizing st with
  | nil => exact fun s hs => Or.inl hs
  | cons q rest ih =>
    obtain ⟨now, n, c, r⟩ := q
    intro s hs
    rcases ih _ s hs with h | ⟨pre, now', n', c', r', post, a, rfl, h⟩
    · by_cases hf : (step st now n c r).1.factory = st.factory
      · exact Or.inl (hf ▸ h)
      · obtain ⟨hep, a, ha, hgen⟩ := token_only_after_auth st now n c r (Or.inl hf)
        rcases List.mem_cons.mp (hgen ▸ h) with h | h
        · exact Or.inr ⟨[], now, n, c, r, rest, a, rfl, hep, ha, h⟩
        · exact Or.inl h
    · exact Or.inr ⟨(now, n, c, r) :: pre, now', n', c', r', post, a, rfl, h⟩

theorem history_closure (st : St) (reqs : List (Int × Bytes × Bytes × Req)) :
    ∀ s ∈ (runReqs st reqs).factory.sealed, s ∈ st.factory.sealed ∨
      ∃ u a t, s.plain = plainOf u a t := by
  intro s hs
  obtain h | ⟨_, now, _, _, r, _, a, _, _, _, e⟩ := sealed_by_login st reqs s hs
  · exact Or.inl h
  · exact Or.inr ⟨r.username, a, now, congrArg Sealed.plain e⟩

end Whawty.WebApi.C06

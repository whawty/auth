/-
  C07 — Session tokens are unforgeable, instance-bound, identity-bound and expire.
  All statements are relative to the ideal-AEAD interface of Model/Session.lean.
-/
import Whawty.Model.Session
import Whawty.Lemmas.Record
namespace Whawty.Session.C07
open Whawty.Rec

/-- A token is accepted iff its decoded halves are exactly the nonce and ciphertext of
    something this instance sealed, the nonce has the AEAD's size, and the sealed plaintext
    passes the strict parse and the age test; the result is what that plaintext says. -/
theorem accept_iff_issued (f : Factory) (now : Int) (nonce cipher user : Bytes) (admin : Bool) :
    check f now nonce cipher = some (user, admin) ↔
      nonce.length = nonceSize ∧
      ∃ plain, aeadOpen f nonce cipher = some plain ∧ splitCheck f.lifetime now plain = some (user, admin) := by
  unfold check
  by_cases hl : nonce.length = nonceSize
  · cases aeadOpen f nonce cipher <;> simp [hl]
  · simp [hl]

/-- The ideal AEAD opens only what it sealed: the entry found has exactly this nonce and
    exactly this ciphertext. -/
theorem aeadOpen_eq_some {f : Factory} {nonce cipher plain : Bytes} (h : aeadOpen f nonce cipher = some plain) :
    ∃ s ∈ f.sealed, (s.nonce = nonce ∧ s.cipher = cipher) ∧ s.plain = plain := by
  obtain ⟨s, hs, hp⟩ := Option.map_eq_some_iff.mp h
  exact ⟨s, List.mem_of_find?_eq_some hs, by simpa using List.find?_some hs, hp⟩

/-- Whatever is accepted was sealed by this very instance: some sealed entry has exactly the
    presented nonce and exactly the presented ciphertext (no partial match, no splice). -/
theorem accepted_was_sealed_here (f : Factory) (now : Int) (nonce cipher : Bytes) (r : Bytes × Bool)
    (h : check f now nonce cipher = some r) :
    ∃ s ∈ f.sealed, s.nonce = nonce ∧ s.cipher = cipher := by
  obtain ⟨_, plain, ho, _⟩ := (accept_iff_issued f now nonce cipher r.1 r.2).mp h
  obtain ⟨s, hs, hsc, _⟩ := aeadOpen_eq_some ho
  exact ⟨s, hs, hsc⟩

/-- A token of another instance (nothing of which this instance sealed), a modified, truncated,
    extended or re-spliced one — any pair that is not exactly a sealed pair — is rejected. -/
theorem not_sealed_rejected (f : Factory) (now : Int) (nonce cipher : Bytes)
    (h : ∀ s ∈ f.sealed, ¬ (s.nonce = nonce ∧ s.cipher = cipher)) : check f now nonce cipher = none := by
  refine Option.eq_none_iff_forall_ne_some.mpr fun r hc => ?_
  obtain ⟨s, hs, hsc⟩ := accepted_was_sealed_here f now nonce cipher r hc
  exact h s hs hsc

/-- The strict plaintext parse: exactly `user:true|false:<decimal time>`, the age within
    `[0, lifetime]`. -/
theorem plain_parse_strict (lifetime now : Int) (plain user : Bytes) (admin : Bool)
    (h : splitCheck lifetime now plain = some (user, admin)) :
    ∃ flag ts t, splitN3 plain = some (user, flag, ts) ∧ (flag = trueB ∨ flag = falseB) ∧
      admin = decide (flag = trueB) ∧ parseInt64 ts = some t ∧ 0 ≤ now - t ∧ now - t ≤ lifetime := by
  unfold splitCheck at h
  split at h
  · cases h
  · rename_i u flag ts hs
    rw [Option.ite_none_left_eq_some] at h
    obtain ⟨hflag, h⟩ := h
    split at h
    · cases h
    · rename_i t ht
      simp only [Option.ite_none_left_eq_some, Option.some.injEq, Prod.mk.injEq] at h
      obtain ⟨h1, h2, rfl, rfl⟩ := h
      exact ⟨flag, ts, t, hs, Decidable.or_iff_not_not_and_not.mpr hflag, rfl, ht, by omega, by omega⟩

/-- Expired and future-dated tokens are rejected even though they are authentic. -/
theorem expired_or_future_rejected (lifetime now : Int) (user flag ts : Bytes) (t : Int)
    (hp : parseInt64 ts = some t) (h : now - t < 0 ∨ now - t > lifetime)
    (plain : Bytes) (hs : splitN3 plain = some (user, flag, ts)) : splitCheck lifetime now plain = none := by
  refine Option.eq_none_iff_forall_ne_some.mpr fun r hc => ?_
  obtain ⟨_, _, _, hs', _, _, hp', _, _⟩ := plain_parse_strict lifetime now plain r.1 r.2 hc
  cases hs.symm.trans hs'
  cases hp.symm.trans hp'
  omega

/-- What `Generate` seals is accepted, as exactly (user, admin), at any time within the lifetime
    after `now`. -/
theorem splitCheck_plainOf {lifetime now now' : Int} {user : Bytes} (admin : Bool) (hu : colon ∉ user)
    (h1 : -(2 ^ 63 : Int) ≤ now) (h2 : now < 2 ^ 63) (hage : 0 ≤ now' - now ∧ now' - now ≤ lifetime) :
    splitCheck lifetime now' (plainOf user admin now) = some (user, admin) := by
  have hflag : colon ∉ (if admin then trueB else falseB) := by cases admin <;> simp [trueB, falseB, colon]
  simp only [splitCheck, splitN3, plainOf, List.append_assoc, List.cons_append, cut_append hu, cut_append hflag,
    parseInt64_decInt h1 h2]
  rw [if_neg (by cases admin <;> simp), if_neg (by omega), if_neg (by omega)]
  cases admin <;> rfl

/-- A colon in the user name can only make the token invalid, never change the identity:
    what `Generate` seals for (user, admin, now) parses back to exactly (user, admin) when the
    user name has no colon — and is rejected when it has one (unless the prefix before the first
    colon is followed by a literal true/false, which `Generate`d plaintexts of valid names never are). -/
theorem generated_plain_parses (lifetime now : Int) (user : Bytes) (admin : Bool)
    (hu : colon ∉ user) (h1 : -(2 ^ 63 : Int) ≤ now) (h2 : now < 2 ^ 63) (hl : 0 ≤ lifetime) :
    splitCheck lifetime now (plainOf user admin now) = some (user, admin) :=
  splitCheck_plainOf admin hu h1 h2 (by omega)

/-- The text layer: a text is accepted iff it has the `nonce:cipher` shape, both halves decode
    and the decoded halves are accepted; two texts with the same decoded content are treated
    alike. -/
theorem text_layer (f : Factory) (now : Int) (text : Bytes) (r : Bytes × Bool) :
    checkText f now text = some r ↔
      ∃ a b n c, cut colon text = some (a, b) ∧ B64.decode a = some n ∧ B64.decode b = some c ∧
        check f now n c = some r := by
  unfold checkText
  constructor
  · intro h
    split at h
    · simp at h
    · rename_i a b hc
      split at h
      · rename_i n c hn hcc; exact ⟨a, b, n, c, hc, hn, hcc, h⟩
      · simp at h
  · rintro ⟨a, b, n, c, hc, hn, hcc, h⟩
    simp [hc, hn, hcc, h]

/-- Issuing a token makes exactly that (nonce, ciphertext) acceptable, for exactly the issued
    identity; every previously sealed pair stays as it was. -/
theorem issued_token_accepted (f : Factory) (user : Bytes) (admin : Bool) (now now' : Int) (nonce cipher : Bytes)
    (hn : nonce.length = nonceSize) (hu : colon ∉ user) (h1 : -(2 ^ 63 : Int) ≤ now) (h2 : now < 2 ^ 63)
    (hage : 0 ≤ now' - now ∧ now' - now ≤ f.lifetime) :
    check (generate f user admin now nonce cipher).1 now' nonce cipher = some (user, admin) :=
  (accept_iff_issued ..).mpr ⟨hn, _, by simp [aeadOpen, generate],
    splitCheck_plainOf admin hu h1 h2 hage⟩

/- Non-vacuity -/
example : splitCheck 600 1000 [97, 58, 116, 114, 117, 101, 58, 57, 48, 48] = some ([97], true) := by decide  -- "a:true:900"
example : splitCheck 600 1000 [97, 58, 84, 82, 85, 69, 58, 57, 48, 48] = none := by decide                   -- "a:TRUE:900"
example : splitCheck 600 1000 [97, 58, 116, 114, 117, 101, 58, 49, 48, 48] = none := by decide               -- expired

end Whawty.Session.C07

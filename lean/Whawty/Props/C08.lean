/-
  C08 — A crash at any instant leaves each hash file old-complete or new-complete.
  Two layers: (1) the checker `crashAtomic`, which the driver evaluates on the REAL strace
  trace of every traced operation, is sound for the quantified statement (every prefix of the
  trace = every system-call boundary, every subset of not-yet-durable directory operations,
  torn data never visible); (2) the model of `writeHashStr`'s protocol satisfies it for all
  contents.
-/
import Whawty.Lemmas.Persist

namespace Whawty.Persist.C08
open Whawty.Trace

theorem mem_sublists {α} {l k : List α} (h : k.Sublist l) : k ∈ sublists l := by
  induction h with
  | slnil => exact List.mem_singleton_self _
  | cons a _ ih => exact List.mem_append_left _ ih
  | cons_cons a _ ih => exact List.mem_append_right _ (List.mem_map_of_mem ih)

/-- The state after the first `k` events. -/
def stateAt (s : St) (evs : List Ev) (k : Nat) : St := run s (evs.take k)

theorem stateAt_mem_prefixStates (s : St) (evs : List Ev) (k : Nat) :
    stateAt s evs k ∈ prefixStates s evs := by
  induction evs generalizing s k with
  | nil => simp [stateAt, run, prefixStates]
  | cons e es ih =>
    cases k with
    | zero => exact List.mem_cons_self
    | succ k => exact List.mem_cons_of_mem _ (ih (step s e) k)

/-- Soundness of the checker: if `crashAtomic` accepts, then at EVERY system-call boundary
    `k`, for EVERY subset `kept` of the not-yet-durable directory operations (in program
    order), the post-crash view of the name is allowed — and so is what any concurrent reader
    or a restarted process sees after a process kill at that boundary. -/
theorem crashAtomic_sound (s0 : St) (evs : List Ev) (n : Name) (allowed : View → Bool)
    (h : crashAtomic s0 evs n allowed = true) :
    ∀ k, (∀ kept, kept.Sublist (stateAt s0 evs k).pending →
            allowed (crashView (stateAt s0 evs k) kept n) = true) ∧
         allowed (killView (stateAt s0 evs k) n) = true := by
  intro k
  simp only [crashAtomic, crashViews, killViews, Bool.and_eq_true, List.all_eq_true, List.mem_flatMap,
    List.mem_map] at h
  have hmem := stateAt_mem_prefixStates s0 evs k
  exact ⟨fun kept hk => h.1.1 _ ⟨_, hmem, kept, mem_sublists hk, rfl⟩, h.1.2 _ ⟨_, hmem, rfl⟩⟩

/-- `torn` is never an allowed view in the instances the driver uses: an accepted trace never
    exposes a name bound to an inode with un-synced data. -/
theorem accepted_never_torn (s0 : St) (evs : List Ev) (n : Name) (allowed : View → Bool)
    (ht : allowed .torn = false) (h : crashAtomic s0 evs n allowed = true) :
    ∀ k kept, kept.Sublist (stateAt s0 evs k).pending → crashView (stateAt s0 evs k) kept n ≠ .torn := by
  intro k kept hk e
  simpa [e, ht] using (crashAtomic_sound s0 evs n allowed h k).1 kept hk

open scoped Whawty.Persist.Eval

/-- Model layer, update: for ALL old and new contents (new line, buffered tail, copied tail of
    any size), every crash view and every kill view of the target is the complete old record
    or the complete new record. -/
theorem model_update_atomic (old line r1 r2 : Bytes) :
    crashAtomic (init [(Name.U, old)]) (updTrace .U line r1 r2) .U
      (fun v => v == .clean old || v == .clean (line ++ r1 ++ r2)) = true := by
  cbv

/-- Model layer, add: absent, the empty reservation, or the complete new record. -/
theorem model_add_atomic (line : Bytes) :
    crashAtomic (init []) (addTrace .U line) .U
      (fun v => v == .absent || v == .clean [] || v == .clean line) = true := by
  cbv

/-- … and every other user's file is untouched in every crash state. -/
theorem model_update_other_user (old oth line r1 r2 : Bytes) :
    crashAtomic (init [(Name.U, old), (Name.sib [111], oth)]) (updTrace .U line r1 r2) (.sib [111])
      (fun v => v == .clean oth) = true := by
  cbv

/-- Negative control (what the checker is for): without the fsync of the temporary file a
    torn record becomes visible under the final name. -/
theorem no_file_fsync_is_rejected :
    crashAtomic (init [(Name.U, [1])])
      [.open 3 .U, .creat 6 (.tmp 1), .write 6 [2], .rename (.tmp 1) .U, .open 7 .B, .fsync 7, .ack] .U
      (fun v => v == .clean [1] || v == .clean [2]) = false := by decide

/-- Negative control: writing the final name in place exposes a truncated record. -/
theorem in_place_write_is_rejected :
    crashAtomic (init [(Name.U, [1])]) [.openw 3 .U true, .write 3 [2], .fsync 3, .ack] .U
      (fun v => v == .clean [1] || v == .clean [2]) = false := by decide

end Whawty.Persist.C08

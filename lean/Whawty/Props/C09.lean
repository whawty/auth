/-
  C09 — Acknowledged changes survive power loss.
  `durableAtAck` is evaluated by the driver on the real strace trace of every traced
  operation; it is sound for "every crash instant after the return, every subset of
  not-yet-durable directory operations". The model of the repaired code satisfies it; the
  pinned code's SetAdmin / Remove (no directory fsync, defect D4) do not.
-/
import Whawty.Props.C08
namespace Whawty.Persist.C09
open Whawty.Trace Whawty.Persist.C08

/-- Soundness: if the checker accepts, then at every system-call boundary at or after the
    acknowledgement, under every subset of pending directory operations, the name shows
    exactly the acknowledged content (in particular never torn, never the old one). -/
theorem durableAtAck_sound (s0 : St) (evs : List Ev) (n : Name) (want : View)
    (h : durableAtAck s0 evs n want = true) :
    ∀ k, (stateAt s0 evs k).acked = true →
      ∀ kept, kept.Sublist (stateAt s0 evs k).pending → crashView (stateAt s0 evs k) kept n = want := by
  intro k hk kept hs
  simp only [durableAtAck, ackedStates, List.all_eq_true, List.mem_filter, beq_iff_eq] at h
  exact h _ ⟨stateAt_mem_prefixStates s0 evs k, hk⟩ kept (mem_sublists hs)

open scoped Whawty.Persist.Eval

theorem model_update_durable (old line r1 r2 : Bytes) :
    durableAtAck (init [(Name.U, old)]) (updTrace .U line r1 r2) .U (.clean (line ++ r1 ++ r2)) = true := by
  cbv

theorem model_add_durable (line : Bytes) :
    durableAtAck (init []) (addTrace .A line) .A (.clean line) = true := by
  cbv

/-- Repaired set-admin: after the return the record is under the new extension and absent
    under the old one in every post-crash state. -/
theorem model_setAdmin_durable (rec : Bytes) :
    durableAtAck (init [(Name.U, rec)]) (setAdminTrace .U .A true) .A (.clean rec) = true ∧
    durableAtAck (init [(Name.U, rec)]) (setAdminTrace .U .A true) .U .absent = true := by
  cbv

theorem model_remove_durable (rec : Bytes) :
    durableAtAck (init [(Name.A, rec)]) (removeTrace true) .A .absent = true ∧
    durableAtAck (init [(Name.A, rec)]) (removeTrace true) .U .absent = true := by
  cbv

/-- Pinned code (defect D4): the acknowledged promotion can be lost — the old extension
    persists after a power loss — and a removed file can reappear. -/
theorem pinned_setAdmin_not_durable :
    durableAtAck (init [(Name.U, [1])]) (setAdminTrace .U .A false) .A (.clean [1]) = false := by decide

theorem pinned_remove_not_durable :
    durableAtAck (init [(Name.A, [1])]) (removeTrace false) .A .absent = false := by decide

/-- A new record never becomes visible under its final name before its content is durable:
    in the model of update, no crash view of the target is torn (from C08's theorem). -/
theorem never_visible_before_durable (old line r1 r2 : Bytes) :
    ∀ k kept, kept.Sublist (stateAt (init [(Name.U, old)]) (updTrace .U line r1 r2) k).pending →
      crashView (stateAt (init [(Name.U, old)]) (updTrace .U line r1 r2) k) kept .U ≠ .torn :=
  accepted_never_torn _ _ _ _ (by simp) (model_update_atomic old line r1 r2)

end Whawty.Persist.C09

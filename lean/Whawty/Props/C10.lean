/-
  C10 — The agent never wedges: every request is eventually answered.
  Over the transition system of Model/Agent.lean, for ALL capacities, client counts and
  interleavings. Liveness is stated as progress: whenever the dispatcher is inside a request it
  can take its next step (possibly after one step of a party that never waits for the
  dispatcher), so no reachable state is a dispatcher deadlock; fairness of Go's `select` is the
  remaining (runtime) hypothesis for "eventually".
-/
import Whawty.Lemmas.Agent
namespace Whawty.Agent.C10

/-- Invariant of reachable states: no queue over its capacity, and `PcOk`. -/
structure Inv (c : Cfg) (s : St) : Prop where
  auth_le : s.qAuth.length ≤ c.capAuth
  update_le : s.qUpdate.length ≤ c.capUpdate
  other_le : s.qOther.length ≤ c.capOther
  notify_le : s.qNotify ≤ c.capNotify
  remote_le : s.qRemote ≤ c.capRemote
  pc : PcOk c s.pc

theorem inv_init (c : Cfg) : Inv c init := by
  constructor <;> simp [init, PcOk]

theorem inv_step {c : Cfg} {s t : St} {l : Label} (hi : Inv c s) (h : Step c s l t) : Inv c t := by
  cases h with
  | enqAuth _ hl => exact { hi with auth_le := length_snoc_le hl }
  | enqUpdate _ hl => exact { hi with update_le := length_snoc_le hl }
  | enqOther _ hl => exact { hi with other_le := length_snoc_le hl }
  | selAuth _ hq => exact { hi with auth_le := length_tail_le hq hi.auth_le, pc := pcOk_afterExec c _ }
  | selUpdate _ hq => exact { hi with update_le := length_tail_le hq hi.update_le, pc := pcOk_afterExec c _ }
  | selOther _ hq => exact { hi with other_le := length_tail_le hq hi.other_le, pc := pcOk_afterExec c _ }
  | upgradeLocal _ _ hl => exact { hi with update_le := length_snoc_le hl, pc := pcOk_respondOrSelect c _ }
  | upgradeRemote _ _ hl => exact { hi with remote_le := hl, pc := pcOk_respondOrSelect c _ }
  | upgradeDrop => exact { hi with pc := pcOk_respondOrSelect c _ }
  | remoteDrain => exact { hi with remote_le := Nat.le_trans (Nat.sub_le ..) hi.remote_le }
  | notifySend _ hl => exact { hi with notify_le := hl, pc := pcOk_respondOrSelect c _ }
  | hookConsume => exact { hi with notify_le := Nat.le_trans (Nat.sub_le ..) hi.notify_le }
  | respond => exact { hi with pc := trivial }

theorem inv_reach (c : Cfg) (s : St) (h : Reach c s) : Inv c s := by
  induction h with
  | init => exact inv_init c
  | step l _ hn ih => exact inv_step ih (step_of_next hn)

/-- The dispatcher's own next step is enabled, possibly after one step of the hooks runner
    (which consumes notifications without ever waiting for the dispatcher). -/
def Progress (c : Cfg) (s : St) : Prop :=
  ∃ l ∈ [Label.upgradeSend, .notifySend, .respond],
    (next c s l).isSome = true ∨ ∃ t, next c s .hookConsume = some t ∧ (next c t l).isSome = true

-- the shape of defect D5: at the upgrade send with the update queue full
def stuckShape (c : Cfg) (s : St) : Bool :=
  (match s.pc with | .sendUpgrade _ => true | _ => false) && s.qUpdate.length == c.capUpdate

theorem stuckShape_iff {c : Cfg} {s : St} :
    stuckShape c s = true ↔ ∃ r, s.pc = .sendUpgrade r ∧ s.qUpdate.length = c.capUpdate := by
  unfold stuckShape
  cases s.pc <;> simp

/-- A reachable dispatcher that is inside a request can move on, unless it is at the blocking
    upgrade send with its own update queue full (defect D5). -/
theorem progress_or_deadlock {c : Cfg} {s : St} (hr : Reach c s) (hpc : s.pc ≠ .select)
    (hN : 0 < c.capNotify) : Progress c s ∨ c.mode = .localBlocking ∧ stuckShape c s = true := by
  have hi := inv_reach c s hr
  have hpcOk := hi.pc
  cases hp : s.pc with
  | select => exact absurd hp hpc
  | sendUpgrade r =>
    rw [hp] at hpcOk
    by_cases hb : c.mode = .localBlocking → s.qUpdate.length < c.capUpdate
    · exact .inl ⟨_, .head _, .inl ((upgradeSend_enabled hp).2 ⟨hpcOk, hb⟩)⟩
    · obtain ⟨hm, hl⟩ := Decidable.not_imp_iff_and_not.1 hb
      exact .inr ⟨hm, stuckShape_iff.2 ⟨r, hp, Nat.le_antisymm hi.update_le (Nat.le_of_not_lt hl)⟩⟩
  | sendNotify r =>
    refine .inl ⟨.notifySend, .tail _ (.head _), ?_⟩
    simp only [next, hp]
    by_cases hfull : s.qNotify < c.capNotify
    · exact .inl (by simp only [hfull, if_true]; rfl)
    · -- the hooks runner takes one notification; then there is room
      have hpos : s.qNotify > 0 := Nat.lt_of_lt_of_le hN (Nat.le_of_not_lt hfull)
      have hroom : s.qNotify - 1 < c.capNotify := Nat.lt_of_lt_of_le (Nat.sub_lt hpos Nat.one_pos) hi.notify_le
      exact .inr ⟨_, if_pos hpos, by simp only [hroom, if_true]; rfl⟩
  | respond r =>
    rw [hp] at hpcOk
    obtain ⟨cl, hc⟩ := Option.isSome_iff_exists.1 hpcOk
    exact .inl ⟨.respond, .tail _ (.tail _ (.head _)), .inl (by simp only [next, hp, hc]; rfl)⟩

/-- No reachable state is a dispatcher deadlock — for upgrade modes off, remote, and local with
    the non-blocking enqueue; all capacities, any number of clients, every interleaving. -/
theorem dispatcher_never_stuck (c : Cfg) (s : St) (hr : Reach c s) (hpc : s.pc ≠ .select)
    (hm : c.mode ≠ .localBlocking) (hN : 0 < c.capNotify) : Progress c s :=
  (progress_or_deadlock hr hpc hN).resolve_right fun h => hm h.1

/-- While the dispatcher is at `select`, it can serve any non-empty queue: every queued
    request is selectable. -/
theorem select_serves_nonempty (c : Cfg) (s : St) (hpc : s.pc = .select) :
    (s.qAuth ≠ [] → (next c s .selAuth).isSome = true) ∧
    (s.qUpdate ≠ [] → (next c s .selUpdate).isSome = true) ∧
    (s.qOther ≠ [] → (next c s .selOther).isSome = true) := by
  refine ⟨fun h => ?_, fun h => ?_, fun h => ?_⟩ <;>
    (obtain ⟨r, rest, hq⟩ := List.exists_cons_of_ne_nil h; simp [next, hpc, hq])

/-- FIFO progress: a selection of a queue executes exactly its head and moves every other
    queued request one place forward; no other step changes its position. Hence the request at
    position `i` is executed by the `(i+1)`-th selection of its queue. -/
theorem fifo_progress (c : Cfg) (s t : St) (h : next c s .selUpdate = some t) :
    ∃ r, s.qUpdate = r :: t.qUpdate ∧ t.executed = s.executed ++ [r] := by
  cases step_of_next h with
  | selUpdate _ hq => exact ⟨_, hq, rfl⟩

theorem queue_only_grows_at_tail (c : Cfg) (s t : St) (l : Label) (h : next c s l = some t)
    (hl : l ≠ .selUpdate) : ∃ tail, t.qUpdate = s.qUpdate ++ tail := by
  cases step_of_next h with
  | selUpdate => exact absurd rfl hl
  | enqUpdate | upgradeLocal => exact ⟨_, rfl⟩
  | _ => exact ⟨[], (List.append_nil _).symm⟩

/-- Each response is delivered to the client of the request it answers (no cross-talk). -/
theorem response_goes_to_own_client (c : Cfg) (s t : St) (h : next c s .respond = some t) :
    ∃ r cl, s.pc = .respond r ∧ r.client = some cl ∧ t.answered = cl :: s.answered := by
  cases step_of_next h with
  | respond hp hc => exact ⟨_, _, hp, hc, rfl⟩

/-- Pinned code (defect D5): with local upgrades and the blocking enqueue the deadlock state IS
    reachable — ten queued updates and one upgradeable login — … -/
def cfgPinned : Cfg := { mode := .localBlocking, capAuth := 10, capUpdate := 10, capOther := 10, capRemote := 10, capNotify := 32 }
def witness : List Label :=
  (List.range 10).map (fun i => Label.enqUpdate (i + 1) true) ++ [.enqAuth 0 true, .selAuth]

theorem deadlock_reached : (run cfgPinned init witness).map (stuckShape cfgPinned) = some true := by decide

/-- … and once there, the dispatcher never moves again, whatever the clients and helpers do. -/
theorem stuck_forever (c : Cfg) (hm : c.mode = .localBlocking) (s t : St) (l : Label)
    (hs : stuckShape c s = true) (hn : next c s l = some t) : stuckShape c t = true := by
  obtain ⟨r, hp, hfull⟩ := stuckShape_iff.1 hs
  -- only the clients of the other queues and the two consumers can move; none of them touches
  -- the program counter or the update queue
  cases step_of_next hn with
  | enqAuth | enqOther | remoteDrain | hookConsume => exact stuckShape_iff.2 ⟨r, hp, hfull⟩
  | enqUpdate _ hl => exact absurd hfull (Nat.ne_of_lt hl)
  | upgradeLocal | upgradeRemote | upgradeDrop =>
    exact absurd hfull (Nat.ne_of_lt (((upgradeSend_enabled hp).1 (Option.isSome_of_eq_some hn)).2 hm))
  | selAuth hp' | selUpdate hp' | selOther hp' | notifySend hp' | respond hp' => rw [hp] at hp'; cases hp'

/- Non-vacuity: the repaired configuration runs the same schedule to completion. -/
example : ((run { cfgPinned with mode := .localNonBlocking } init (witness ++ [.upgradeSend, .respond])).map (·.answered)) = some [0] := by
  decide

end Whawty.Agent.C10

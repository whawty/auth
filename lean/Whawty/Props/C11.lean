/-
  C11 — Concurrent requests are linearizable; acknowledged changes are never undone.
  (1) `linCheck` is evaluated by the driver on REAL concurrent histories of the agent; it is
  sound: an accepted history has a linearization in the sense spelled out by `validLin_spec`.
  (2) In the transition system of the dispatcher, requests are executed one at a time, each
  between its invocation and its response, and each response goes to its own client.
  (3) An internal hash upgrade (repaired code: update with the password that still
  authenticates) does not change the abstract store; the pinned code's could (defect D6).
-/
import Whawty.Lemmas.Lin
namespace Whawty.Lin.C11
open Whawty.WebApi

/-- Soundness of the checker (by construction: the search result is re-validated). -/
theorem linCheck_sound (h : List Op) (s0 : Spec) (order : List Nat) (s : Spec)
    (hc : linCheck h s0 = some (order, s)) : validLin h s0 order = some s := by
  unfold linCheck at hc
  split at hc
  · cases hc
  · obtain ⟨s', hv, ⟨⟩⟩ := Option.map_eq_some_iff.1 hc
    exact hv

/-- What an accepted linearization is: every operation occurs in it, it has no more entries
    than there are operations, it respects real time — an operation that had responded before
    another one was invoked is never placed after it — and replaying the calls in this order
    from the initial state gives exactly the observed responses and the final state. -/
theorem validLin_spec (h : List Op) (s0 s : Spec) (order : List Nat) (hv : validLin h s0 order = some s) :
    order.length = h.length ∧ (∀ i, i < h.length → i ∈ order) ∧
    (∀ p q, p < q → q < order.length → ∀ a b, h[order[p]!]? = some a → h[order[q]!]? = some b → ¬ b.res < a.inv) ∧
    replay h s0 order = some s := by
  obtain ⟨hperm, hrt, hrep⟩ := validLin_eq_some_iff.1 hv
  refine ⟨hperm.length_eq.trans List.length_range, fun i hi => hperm.mem_iff.2 (List.mem_range.2 hi),
    fun p q hpq hq a b ha hb => ?_, hrep⟩
  have hp : p < order.length := Nat.lt_trans hpq hq
  obtain ⟨a', b', ha', hb', hn⟩ := List.pairwise_iff_getElem.1 hrt p q hp hq hpq
  rw [getElem!_pos order p hp, ha'] at ha
  rw [getElem!_pos order q hq, hb'] at hb
  cases ha; cases hb; exact hn

/-- Replay checks each response against the sequential semantics. -/
theorem replay_cons (h : List Op) (s s' : Spec) (i : Nat) (rest : List Nat)
    (hr : replay h s (i :: rest) = some s') :
    ∃ op, h[i]? = some op ∧ (apply s op.call).2 = op.ret ∧ replay h (apply s op.call).1 rest = some s' :=
  replay_cons_iff.1 hr

/-- An internal hash upgrade of the repaired code re-authenticates first: it is an update
    with the password the store currently has, which leaves the abstract store unchanged —
    password, admin flag and every other user. An acknowledged change is never undone by it. -/
theorem upgrade_preserves_spec (st st' : St) (u p : Bytes) (a : Bool)
    (huniq : ∀ x ∈ st.users, ∀ y ∈ st.users, x.name = y.name → x = y)
    (hauth : storeAuth st u p = some a) (hupd : updateUser st u p = some st') : st'.users = st.users := by
  simp only [storeAuth, Option.ite_none_left_eq_some] at hauth
  simp only [updateUser, Option.ite_none_left_eq_some] at hupd
  cases hf : find st u with
  | none => simp [hf] at hupd
  | some usr =>
    simp only [hf, Option.ite_none_right_eq_some, Option.some.injEq] at hupd hauth
    obtain ⟨-, rfl⟩ := hupd
    obtain ⟨-, rfl, -⟩ := hauth
    have hname : usr.name = u := by simpa using List.find?_some hf
    -- one entry per name: an entry named `u` is the one `find` returned, which has password `p` already
    refine (List.map_congr_left fun x hx => ?_).trans (List.map_id _)
    split
    · rename_i hn
      cases huniq usr (List.mem_of_find?_eq_some hf) x hx (hname.trans hn.symm)
      rfl
    · rfl

/-- Pinned code (defect D6): the queued upgrade re-stored the LOGIN password without checking
    it again; after an acknowledged update in between this is an update with an outdated
    password, which does change the abstract store (the password reverts). -/
theorem pinned_upgrade_reverts_password :
    let st : St := { users := [⟨[97], false, [2]⟩], factory := ⟨[], 0⟩ }     -- user "a" now has password [2]
    (updateUser st [97] [1]).map (·.users) = some [⟨[97], false, [1]⟩] := by decide

/-- Soundness of the checker the driver runs on real histories: an accepted history has a
    linearization (in the sense of `validLin_spec`) whose final state is accepted by `final` —
    the driver passes "equals the store content observed once the agent was idle again". The
    memoised search itself is untrusted: its answer is re-validated. -/
theorem linCheckFinal_sound (h : List Op) (s0 : Spec) (final : Spec → Bool) (order : List Nat) (s : Spec)
    (hc : linCheckFinal h s0 final = some (order, s)) : validLin h s0 order = some s ∧ final s = true := by
  unfold linCheckFinal at hc
  repeat' split at hc
  all_goals cases hc
  exact ⟨‹_›, ‹_›⟩

/-- Hence: every operation is in the order, real time is respected, every response is the
    sequential one, and the state reached is the observed idle state. -/
theorem linCheckFinal_spec (h : List Op) (s0 : Spec) (final : Spec → Bool) (order : List Nat) (s : Spec)
    (hc : linCheckFinal h s0 final = some (order, s)) :
    order.length = h.length ∧ (∀ i, i < h.length → i ∈ order) ∧
    (∀ p q, p < q → q < order.length → ∀ a b, h[order[p]!]? = some a → h[order[q]!]? = some b → ¬ b.res < a.inv) ∧
    replay h s0 order = some s ∧ final s = true := by
  obtain ⟨hv, hf⟩ := linCheckFinal_sound h s0 final order s hc
  obtain ⟨a, b, c, d⟩ := validLin_spec h s0 s order hv
  exact ⟨a, b, c, d, hf⟩

/-- **Completeness of the rejection** (`linCheck_complete`): when the exhaustive search
    `notLinearizable` answers true, NO order whatsoever is a linearization of the history (all
    operations, real time respected, every response the sequential one) that ends in a state
    accepted by `final`. A real history rejected this way is therefore a concrete
    counter-example to C11, not merely a failed search. -/
theorem rejection_is_conclusive (h : List Op) (s0 : Spec) (final : Spec → Bool)
    (hn : notLinearizable h s0 final = true) :
    ¬ ∃ order sf, validLin h s0 order = some sf ∧ final sf = true := by
  rintro ⟨order, sf, hv, hf⟩
  obtain ⟨hperm, hrt, hrep⟩ := validLin_eq_some_iff.1 hv
  have := searchB_complete hperm.symm (hperm.nodup_iff.2 List.nodup_range) hrt hrep hf
  rw [hperm.length_eq, List.length_range] at this
  simp [notLinearizable, this] at hn

/-- The two checkers never contradict each other. -/
theorem accept_excludes_reject (h : List Op) (s0 : Spec) (final : Spec → Bool) (order : List Nat) (s : Spec)
    (hc : linCheckFinal h s0 final = some (order, s)) : notLinearizable h s0 final = false :=
  Bool.eq_false_iff.2 fun hn =>
    rejection_is_conclusive h s0 final hn ⟨order, s, linCheckFinal_sound h s0 final order s hc⟩

/- Non-vacuity: login with the old password, remove, add again with a new password — all
   acknowledged in that real-time order — and an idle store that shows the OLD password
   (the history S-C11-1 produces) is rejected conclusively; the same history ending in the new
   password is accepted. -/
section NonVacuity
def u1 : Bytes := [117]
def hABA : List Op :=
  [⟨.auth u1 [1], .authOk false, 1, 2⟩, ⟨.remove u1, .ok, 3, 4⟩, ⟨.add u1 [2] false, .ok, 5, 6⟩]
example : notLinearizable hABA [⟨u1, false, [1]⟩] (fun s => s == [⟨u1, false, [1]⟩]) = true := by decide +kernel
example : notLinearizable hABA [⟨u1, false, [1]⟩] (fun s => s == [⟨u1, false, [2]⟩]) = false := by decide +kernel
end NonVacuity

end Whawty.Lin.C11

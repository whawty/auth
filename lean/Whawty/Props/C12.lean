/-
  C12 — Hash upgrades preserve the password, converge, and can be switched off.
-/
import Whawty.Props.C01
import Whawty.Lemmas.Agent
namespace Whawty.Store.C12
open Whawty.Rec

/-- Authentication reports a hash as upgradeable exactly when its parameter set differs from
    the configured default. -/
theorem upgradeable_iff (c : Cfg) (d : Dir) (u pw : Bytes) (r : AuthOk) (h : authenticate c d u pw = .ok r) :
    ∃ a b hd, get d (fileName u a) = some (.file b) ∧ readHead b = some hd ∧
      (r.upgradeable = true ↔ c.default ≠ hd.paramId) := by
  obtain ⟨a, b, hd, ps, salt, hash, _, hb, h1, _, _, _, _, hr⟩ := (C02.auth_iff_record c d u pw r).mp h
  exact ⟨a, b, hd, hb, h1, by rw [hr]; simp⟩

/-- The upgrade step of the repaired agent: re-authenticate with the login password, then
    update with it. -/
def upgradeStep (c : Cfg) (d : Dir) (u pw : Bytes) (now : Int) (salt : Bytes) : Dir :=
  match authenticate c d u pw with
  | .ok r => if r.upgradeable then (match update c d u pw now salt with | .ok d' => d' | .error _ => d) else d
  | .error _ => d

/-- A failed login never rewrites anything (the step is the identity). -/
theorem failed_login_never_writes (c : Cfg) (d : Dir) (u pw : Bytes) (now : Int) (salt : Bytes) (e : Err)
    (h : authenticate c d u pw = .error e) : upgradeStep c d u pw now salt = d := by
  simp [upgradeStep, h]

/-- With an up-to-date hash the step is the identity too. -/
theorem up_to_date_not_rewritten (c : Cfg) (d : Dir) (u pw : Bytes) (now : Int) (salt : Bytes) (r : AuthOk)
    (h : authenticate c d u pw = .ok r) (hu : r.upgradeable = false) : upgradeStep c d u pw now salt = d := by
  simp [upgradeStep, h, hu]

/-- After the upgrade step for a successful upgradeable login: the record is either untouched
    or rewritten under the default set for exactly the same password — the same passwords
    authenticate as before (`digest salt' p = digest salt' pw` under the default set), the admin
    flag is the same, the auxiliary lines are the same, the hash is no longer upgradeable — and
    every other user's files are untouched. -/
theorem upgrade_same_password {c : Cfg} {d : Dir} {u pw salt : Bytes} {now : Int} {r : AuthOk}
    (hc : C01.CfgOk c) (ht : C01.timeOk now)
    (h : authenticate c d u pw = .ok r) (hu : r.upgradeable = true) :
    upgradeStep c d u pw now salt = d ∨
    ∃ ps, c.lookup c.default = some ps ∧
      (∀ p, authenticate c (upgradeStep c d u pw now salt) u p =
        if ps.digest salt p = ps.digest salt pw then .ok ⟨r.isAdmin, false, now⟩ else .error .wrongPassword) ∧
      (∀ v, v ≠ u → sameUser d (upgradeStep c d u pw now salt) v) := by
  simp only [upgradeStep, h, hu, if_true]
  cases hup : update c d u pw now salt with
  | error e => exact Or.inl rfl
  | ok d' =>
    right
    obtain ⟨ps, a, hps, he, hauth⟩ := C01.update_then_auth hup hc ht
    -- the flag `update` found is the one the login reported
    obtain ⟨a', _, _, _, he', _, _, rfl⟩ := (authenticate_ok_iff c d u pw r).mp h
    cases he.symm.trans he'
    exact ⟨ps, hps, hauth, fun v hv => by simpa [step, hup] using C01.step_other_user c d (.update u pw now salt) (Ne.symm hv)⟩

/-- … and afterwards the hash is no longer upgradeable: a second step is the identity
    (convergence on an idle agent). -/
theorem converges {c : Cfg} {d d' : Dir} {u pw salt salt2 : Bytes} {now now2 : Int}
    (hc : C01.CfgOk c) (ht : C01.timeOk now) (hup : update c d u pw now salt = .ok d') :
    upgradeStep c d' u pw now2 salt2 = d' := by
  obtain ⟨ps, a, _, _, hauth⟩ := C01.update_then_auth hup hc ht
  simp [upgradeStep, hauth pw]

/-- With upgrades disabled no authentication modifies the store: `authenticate` has no result
    directory (read-only by type), and the dispatcher takes no upgrade step in mode off. -/
theorem off_never_upgrades (c : Agent.Cfg) (r : Agent.Req) (h : c.mode = .off) :
    ∀ q, Agent.afterExec c r ≠ .sendUpgrade q := by
  intro q hq
  exact (hq ▸ Agent.pcOk_afterExec c r : Agent.PcOk c (.sendUpgrade q)) h

/-- Nothing remembers a dropped upgrade request: whether the dispatcher queues the upgrade of
    an upgradeable login depends ONLY on the free space of the queue at that moment — not on
    what happened to earlier requests of the same user. Whenever there is space (in particular
    on an otherwise idle agent) the request is queued. -/
theorem upgrade_queued_whenever_space (c : Agent.Cfg) (s : Agent.St) (r : Agent.Req)
    (hm : c.mode = .localNonBlocking) (hpc : s.pc = .sendUpgrade r) (hlen : s.qUpdate.length < c.capUpdate) :
    ∃ t, Agent.next c s .upgradeSend = some t ∧ t.qUpdate = s.qUpdate ++ [Agent.upgradeReq] := by
  simp [Agent.next, hpc, hm, hlen]

/-- … and when there is none it is dropped without blocking and without any other effect than
    moving on: the state afterwards differs from the state before only in the program counter. -/
theorem dropped_upgrade_leaves_no_trace (c : Agent.Cfg) (s t : Agent.St) (r : Agent.Req)
    (hm : c.mode = .localNonBlocking) (hpc : s.pc = .sendUpgrade r) (hfull : ¬ s.qUpdate.length < c.capUpdate)
    (h : Agent.next c s .upgradeSend = some t) : t = { s with pc := Agent.respondOrSelect r } := by
  simp [Agent.next, hpc, hm, hfull] at h
  exact h.symm

end Whawty.Store.C12

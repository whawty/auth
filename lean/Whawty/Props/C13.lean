/-
  C13 — saslauthd wire codec: exact format, lossless round trip, fragment-independent.
-/
import Whawty.Lemmas.Sasl
namespace Whawty.Sasl.C13

def fieldsOk (r : Request) : Prop :=
  r.login.length ≤ maxLen ∧ r.password.length ≤ maxLen ∧ r.service.length ≤ maxLen ∧ r.realm.length ≤ maxLen

/-- Wire format of a request: four fields, each a 16-bit big-endian length and the bytes. -/
theorem wire_format_request (r : Request) (h : fieldsOk r) :
    r.encode = some (be16 r.login.length ++ r.login ++ (be16 r.password.length ++ r.password ++
      (be16 r.service.length ++ r.service ++ (be16 r.realm.length ++ r.realm ++ [])))) := by
  have ⟨h1, h2, h3, h4⟩ := h
  refine Request.encode_eq_some_iff.mpr ⟨h, ?_⟩
  rw [encodeParts_cons_of_le h1, encodeParts_cons_of_le h2, encodeParts_cons_of_le h3,
    encodeParts_cons_of_le h4]
  rfl

/-- Wire format of a response: one part whose text is OK/NO, optionally a space and a message. -/
theorem wire_format_response (r : Response) (h : r.text.length ≤ 65535) :
    r.encode = some (be16 r.text.length ++ r.text) ∧
    r.text = (if r.result then [79, 75] /- "OK" -/ else [78, 79] /- "NO" -/) ++
             (if r.message = [] then [] else 32 /- ' ' -/ :: r.message) := by
  refine ⟨by rw [Response.encode_eq, if_pos h], ?_⟩
  simp only [Response.text, okB, noB, List.isEmpty_iff]

/-- An over-limit request field is refused by the encoder. -/
theorem overlimit_refused_encode (r : Request) (h : ¬ fieldsOk r) : r.encode = none :=
  Option.eq_none_iff_forall_ne_some.mpr fun _ he => h (Request.encode_eq_some_iff.mp he).1

/-- An over-limit length prefix is refused by the split function, at EOF or not, whatever
    follows; hence by the decoder whenever it is the prefix of one of the parts it needs. -/
theorem overlimit_refused_scan (hi lo : Byte) (rest : Bytes) (e : Bool)
    (h : be16val hi lo > maxLen) : scan (hi :: lo :: rest) e = .err :=
  scan_overlimit hi lo rest e h

theorem overlimit_refused_decode (k : Nat) (s : Bytes) (ps : List Bytes) (n : Nat)
    (h : decodePure k s = some (ps, n)) : ∀ p ∈ ps, p.length ≤ maxLen :=
  (decodePure_eq_some_iff.mp h).2.1

/-- Decoding an encoded request (followed by arbitrary trailing bytes) returns the identical
    field values and consumes exactly the encoder's output. -/
theorem decode_encode_request (r : Request) (enc rest : Bytes) (hf : fieldsOk r)
    (hl : r.login ≠ []) (hp : r.password ≠ []) (henc : r.encode = some enc) :
    Request.decode (enc ++ rest) = some (r, enc.length) :=
  Request.decode_eq_some_iff.mpr ⟨hl, hp, enc, henc, List.prefix_append .., rfl⟩

/-- Decoding an encoded response whose text fits the part limit returns verdict and message. -/
theorem decode_encode_response (r : Response) (enc rest : Bytes) (h : r.text.length ≤ maxLen)
    (henc : r.encode = some enc) : Response.decode (enc ++ rest) = some r := by
  rw [Response.decode_encode henc, if_pos h]

/-- A successfully decoded request re-encodes to exactly the bytes that were consumed. -/
theorem reencode_consumed (s : Bytes) (r : Request) (n : Nat)
    (h : Request.decode s = some (r, n)) : r.encode = some (s.take n) := by
  obtain ⟨-, -, enc, henc, hpre, rfl⟩ := Request.decode_eq_some_iff.mp h
  rwa [← List.prefix_iff_eq_take.mp hpre]

/-- The decoders' result depends only on the byte stream, never on its fragmentation into
    reads (any number of chunks, including empty ones = zero-length reads; EOF after the
    last chunk or delivered with it) — for every fragmentation a reader that makes progress
    produces: at most `maxEmptyReads` = 100 zero-length reads in a row (`stallFree`). -/
theorem fragment_independent_request (cs : List Bytes) (h : stallFree 0 cs = true) :
    Request.decodeChunked cs = Request.decode cs.flatten := by
  simp only [Request.decodeChunked, Request.decode, decodeScan_eq_decodePure _ _ _ _ (.inl h), List.nil_append]

theorem fragment_independent_response (cs : List Bytes) (h : stallFree 0 cs = true) :
    Response.decodeChunked cs = Response.decode cs.flatten := by
  simp only [Response.decodeChunked, Response.decode, decodeScan_eq_decodePure _ _ _ _ (.inl h), List.nil_append]

/-- For readers that never return zero bytes (sockets, pipes, files) there is no side condition. -/
theorem fragment_independent_nonempty_reads (cs : List Bytes) (h : ∀ c ∈ cs, c ≠ []) :
    Request.decodeChunked cs = Request.decode cs.flatten ∧ Response.decodeChunked cs = Response.decode cs.flatten :=
  ⟨fragment_independent_request cs (stallFree_of_nonempty cs h 0), fragment_independent_response cs (stallFree_of_nonempty cs h 0)⟩

/-- Two fragmentations of the same stream decode alike. -/
theorem fragment_independent (cs ds : List Bytes) (h : cs.flatten = ds.flatten)
    (hc : stallFree 0 cs = true) (hd : stallFree 0 ds = true) :
    Request.decodeChunked cs = Request.decodeChunked ds ∧
    Response.decodeChunked cs = Response.decodeChunked ds := by
  simp only [fragment_independent_request, fragment_independent_response, h, hc, hd, and_self]

/-- The one way fragmentation does matter (bufio's guard against a reader that makes no
    progress): when the stream read so far is incomplete and 101 zero-length reads follow in a
    row, the decoder fails closed — it never invents a request. -/
theorem stalled_reader_is_refused (first : Bytes) (rest : List Bytes) (n : Nat) (hn : n > maxEmptyReads)
    (hm : scan first false = .more) (hne : first ≠ []) :
    Request.decodeChunked (first :: (List.replicate n [] ++ rest)) = none := by
  have h0 : scan ([] : Bytes) false = .more := rfl
  have hf : first.isEmpty = false := by simpa using hne
  unfold Request.decodeChunked decodeScan
  simp only [h0, hf, Bool.false_eq_true, if_false, List.nil_append]
  rw [decodeScan_stalled 3 first rest hm n 0 (Nat.zero_le _) (by omega)]

/-- Whatever the fragmentation, stalls included: a request the chunked decoder returns is the
    request the stream decodes to (the guard can only turn a result into an error). -/
theorem chunked_result_is_stream_result (cs : List Bytes) (r : Request × Nat)
    (h : Request.decodeChunked cs = some r) : Request.decode cs.flatten = some r := by
  unfold Request.decodeChunked at h
  have hs : decodeScan 4 [] cs 0 ≠ none := fun hn => by rw [hn] at h; cases h
  rwa [decodeScan_eq_decodePure _ _ _ _ (.inr (Option.isSome_iff_ne_none.mpr hs))] at h

/-- The PAM module's request bytes are the Go encoder's bytes for the clipped fields. -/
theorem pam_encoder_agrees (user pw : Bytes) :
    (Request.mk (user.take 256) (pw.take 256) [] []).encode = some (pamEncode user pw) := by
  have h : fieldsOk (Request.mk (user.take 256) (pw.take 256) [] []) :=
    ⟨List.length_take_le .., List.length_take_le .., Nat.zero_le _, Nat.zero_le _⟩
  rw [wire_format_request _ h]
  simp only [pamEncode, pamPart, List.length_take, Nat.min_comm 256, List.append_assoc, List.append_nil,
    List.take_nil]
  rfl

/- Non-vacuity: concrete non-trivial instances of the hypotheses. -/
example : fieldsOk ⟨[97, 108, 105, 99, 101], [115, 51], [105, 109, 97, 112], []⟩ := by
  simp [fieldsOk, maxLen]
example : Request.decodeChunked [[0], [5, 97], [108, 105], [], [99, 101, 0, 1], [120, 0, 0, 0, 0, 7]]
    = some (⟨[97, 108, 105, 99, 101], [120], [], []⟩, 14) := by
  rw [fragment_independent_request _ (by decide)]
  decide +kernel
-- a run of exactly 100 zero-length reads is still a well-behaved reader; 101 are not
example : stallFree 0 ([0] :: (List.replicate 100 [] ++ [[1, 65]])) = true := by decide +kernel
example : stallFree 0 ([0] :: (List.replicate 101 [] ++ [[1, 65]])) = false := by decide +kernel
example : Request.decode [1, 1, 0] = none := by decide   -- 257-byte length prefix

end Whawty.Sasl.C13

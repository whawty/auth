/-
  C14 — Written records follow the schema and the configured parameters exactly.
-/
import Whawty.Lemmas.Store
import Whawty.Model.Config
namespace Whawty.Store.C14
open Whawty.Rec

/-- The first line written by add is exactly
    `<format id>:<now>:<default id>:<base64url salt>:<base64url digest>\n` for the default
    parameter set; nothing else is in the new file. -/
theorem add_written_record {c : Cfg} {d d' : Dir} {u pw salt : Bytes} {adm : Bool} {now : Int}
    (h : add c d u pw adm now salt = .ok d') :
    ∃ ps, c.lookup c.default = some ps ∧
      get d' (fileName u adm) = some (.file
        (ps.formatId ++ colon :: decInt now ++ colon :: decNat c.default ++ colon ::
          (B64.encode salt ++ colon :: B64.encode (ps.digest salt pw)) ++ [nl])) := by
  obtain ⟨ps, a, -, hps, hw⟩ := add_ok h
  refine ⟨ps, hps, ?_⟩
  rw [hw.get_self]
  simp [newContent, formatLine, hashStrOf, afterFirstLine]

/-- The file written by update is that line followed by exactly the old auxiliary lines. -/
theorem update_written_record {c : Cfg} {d d' : Dir} {u pw salt : Bytes} {now : Int}
    (h : update c d u pw now salt = .ok d') :
    ∃ ps a old, c.lookup c.default = some ps ∧ get d (fileName u a) = some (.file old) ∧
      get d' (fileName u a) = some (.file
        (ps.formatId ++ colon :: decInt now ++ colon :: decNat c.default ++ colon ::
          (B64.encode salt ++ colon :: B64.encode (ps.digest salt pw)) ++ [nl] ++ afterFirstLine old)) := by
  obtain ⟨ps, a, old, -, hold, -, hps, hw⟩ := update_ok h
  refine ⟨ps, a, old, hps, hold, ?_⟩
  rw [hw.get_self]
  simp [newContent, formatLine, hashStrOf]

/-- Parsing the written record returns exactly those fields (one line, five fields). -/
theorem written_record_parses (ps : ParamSet) (now : Int) (pid : Nat) (salt pw old : Bytes)
    (hf : ∀ ch ∈ ps.formatId, ch ≠ colon ∧ ch ≠ nl) (h1 : -(2 ^ 63 : Int) ≤ now) (h2 : now < 2 ^ 63)
    (hp : pid < 2 ^ 64) :
    readHead (newContent ps pid now salt pw old) =
      some ⟨ps.formatId, now, pid, hashStrOf salt (ps.digest salt pw) ++ [nl]⟩ ∧
    decodeSaltHash (hashStrOf salt (ps.digest salt pw) ++ [nl]) = some (salt, ps.digest salt pw) :=
  ⟨readHead_formatLine _ _ _ _ _ _ hf h1 h2 hp, decodeSaltHash_hashStrOf _ _⟩

/-- URL-safe padded base64: the encoded salt and digest contain no ':' , CR or LF, and their
    length is a multiple of four. -/
theorem encoded_fields_shape (x : Bytes) :
    (∀ ch ∈ B64.encode x, ch ≠ 10 ∧ ch ≠ 13 ∧ ch ≠ 58) ∧ (B64.encode x).length % 4 = 0 := by
  refine ⟨B64.encode_chars x, ?_⟩
  fun_induction B64.encode x <;> simp_all <;> omega

/-- The written bytes depend on the password only through the digest (and not at all on the
    HMAC key, which is not even an argument): two passwords with the same digest under the
    written salt produce byte-identical files. -/
theorem depends_on_password_only_through_digest (ps : ParamSet) (pid : Nat) (now : Int)
    (salt pw pw' old : Bytes) (h : ps.digest salt pw = ps.digest salt pw') :
    newContent ps pid now salt pw old = newContent ps pid now salt pw' old := by
  simp [newContent, h]

/-- The configuration-to-parameter mapping: N = 2^cost; an `r` / `p` override is applied iff
    it is greater than zero, otherwise the defaults 8 / 1. -/
theorem config_to_scrypt_params (s : Config.ScryptCfg) :
    (Config.scryptEffective s).1 = 2 ^ s.cost ∧
    (Config.scryptEffective s).2.1 = (match s.r with | some r => if r > 0 then r else 8 | none => 8) ∧
    (Config.scryptEffective s).2.2 = (match s.p with | some p => if p > 0 then p else 1 | none => 1) :=
  ⟨rfl, rfl, rfl⟩

theorem config_to_argon_params (a : Config.ArgonCfg) :
    Config.argonEffective a = (a.time, a.memory, a.threads, a.length) := rfl

example : Config.scryptEffective ⟨some 32, 14, none, some 0⟩ = (16384, 8, 1) := by decide
example : Config.scryptEffective ⟨some 32, 3, some 16, some 2⟩ = (8, 16, 2) := by decide

end Whawty.Store.C14

/-
  C15 — Operations touch only their target; failures and read-only calls change nothing.
  In the L1 model a failing operation returns `Except.error` and therefore has no result
  directory at all: "leaves the store exactly as it was" is structural there; what ties it to
  the code is the correspondence (post-snapshot = pre-snapshot on every failing call) and the
  fault-injection run. The theorems below are the frame properties and the protocol-level
  fault analysis of `writeHashStr`.
-/
import Whawty.Props.C03
import Whawty.Props.C09
namespace Whawty.Store.C15
open Whawty.Rec

/-- Update preserves the user's auxiliary data byte for byte: the new file is the new first
    line followed by exactly what followed the old first line — whatever bytes those are
    (binary, CRLF, no trailing newline, longer than any buffer). -/
theorem update_preserves_aux {c : Cfg} {d d' : Dir} {u pw salt : Bytes} {now : Int}
    (h : update c d u pw now salt = .ok d')
    (hplain : ∀ id ps, c.lookup id = some ps → ∀ ch ∈ ps.formatId, ch ≠ colon ∧ ch ≠ nl) :
    ∃ a old new, exists_ d u = .ok (true, a) ∧ get d (fileName u a) = some (.file old) ∧
      get d' (fileName u a) = some (.file new) ∧ afterFirstLine new = afterFirstLine old := by
  obtain ⟨ps, a, old, he, hold, -, hps, hw⟩ := update_ok h
  exact ⟨a, old, _, he, hold, hw.get_self, afterFirstLine_formatLine _ _ _ _ _ _ (hplain _ _ hps)⟩

/-- … and every other entry of the directory (every other user's file) byte for byte. -/
theorem update_preserves_others {c : Cfg} {d d' : Dir} {u pw salt : Bytes} {now : Int}
    (h : update c d u pw now salt = .ok d') (n : Bytes)
    (h1 : n ≠ u ++ userExt) (h2 : n ≠ u ++ adminExt) (h3 : n ≠ tmpName) : get d' n = get d n :=
  C03.effects_confined_update h n h1 h2 h3

/-- Set-admin preserves the whole record, time stamp and auxiliary data included: the node is
    moved, not rewritten. -/
theorem setAdmin_preserves_record {d d' : Dir} {u : Bytes} {st : Bool}
    (h : setAdmin d u st = .ok d') :
    ∃ a x, exists_ d u = .ok (true, a) ∧ get d (fileName u a) = some x ∧ get d' (fileName u st) = some x := by
  obtain ⟨a, x, he, hx, -, hx'⟩ := setAdmin_moves_node h
  exact ⟨a, x, he, hx, hx'⟩

/- Read-only calls (authenticate, exists, list, list-full, check) are functions
   `Cfg → Dir → … → result` in the model: they have no result directory, so there is nothing to
   state as a theorem about them; that the REAL calls perform no file-system mutation is decided
   on their strace traces by the checker `tr.c15ro` (no creat/write/rename/unlink/mkdir/fsync
   event at all between the markers). -/

end Whawty.Store.C15

namespace Whawty.Persist.C15
open Whawty.Trace

theorem killView_of_atomic_take {s : St} {evs : List Ev} {n : Name} {allowed : View → Bool} {m k : Nat}
    (h : crashAtomic s (evs.take m) n allowed = true) (hk : k ≤ m) :
    allowed (killView (run s (evs.take k)) n) = true := by
  have := (C08.crashAtomic_sound _ _ _ _ h k).2
  rwa [C08.stateAt, List.take_take, Nat.min_eq_left hk] at this

/-- Protocol-level fault analysis of update: if the operation stops after any number `k` of
    its system calls up to (not including) the rename and the deferred cleanup runs, every
    name of the store shows what it showed before — for all contents. -/
theorem model_update_fault_before_commit (old line r1 r2 : Bytes) :
    ∀ k, k ≤ 10 →
      killView (run (init [(Name.U, old)]) ((updTrace .U line r1 r2).take k ++ [.unlink (.tmp 1)])) .U = .clean old := by
  intro k hk
  -- the cleanup does not touch the name; the first ten events of `updTrace` (the rename is the eleventh) are accepted
  -- with only `old` allowed
  rw [run_concat, killView_unlink, if_neg (by decide)]
  exact beq_iff_eq.mp (killView_of_atomic_take (m := 10) (allowed := (· == .clean old)) (by cbv) hk)

/-- The same for add (repaired code): the reservation is unlinked by the cleanup, the name is
    absent again. With the pinned cleanup (no unlink of the reservation) it is not: defect D7. -/
theorem model_add_fault_before_commit (line : Bytes) :
    ∀ k, k ≤ 8 →
      killView (run (init []) ((addTrace .U line).take k ++
        [.unlink (.tmp 1)] ++ (if 3 ≤ k then [.unlink .U] else []))) .U = .absent := by
  intro k _
  split
  · rw [run_concat, killView_unlink, if_pos rfl]
  · -- the reservation is the third event of `addTrace`: before it only the two `stat`s have run
    rw [List.append_nil, run_concat, killView_unlink, if_neg (by decide)]
    exact beq_iff_eq.mp (killView_of_atomic_take (m := 2) (allowed := (· == .absent)) (by cbv) (by omega))

theorem pinned_add_fault_leaves_reservation :
    killView (run (init []) ((addTrace .U [1]).take 7 ++ [.unlink (.tmp 1)])) .U = .clean [] := by decide

/-- Known finding D10 (why `model_update_fault_before_commit` stops at the rename): a failure
    AFTER the rename (opening or fsyncing the base directory) is reported as an error although
    the new record is in place. -/
theorem fault_after_commit_is_visible :
    killView (run (init [(Name.U, [1])]) ((updTrace .U [2] [] []).take 12 ++ [.unlink (.tmp 1)])) .U = .clean [2] := by
  decide

/-- **The two layers agree.** The system-call protocol of update (layer L0), run on a file holding
    `old`, with the new first line the store formats and the old tail it copies (in whatever two
    pieces the reader buffer and copy_file_range split it), leaves — durably, from the
    acknowledgement on, in every post-crash state — exactly the content the directory-map model
    (layer L1, `Store.update`) installs: `Store.newContent`. -/
theorem l0_update_installs_l1_content (ps : Store.ParamSet) (id : Nat) (now : Int) (salt pw old r1 r2 : Bytes)
    (hsplit : r1 ++ r2 = Rec.afterFirstLine old) :
    durableAtAck (init [(Name.U, old)])
      (updTrace .U (Rec.formatLine ps.formatId now id (Rec.hashStrOf salt (ps.digest salt pw))) r1 r2) .U
      (.clean (Store.newContent ps id now salt pw old)) = true := by
  simpa [Store.newContent, ← hsplit, List.append_assoc] using C09.model_update_durable old _ r1 r2

/-- The same for add: the reserved empty file is replaced by exactly L1's content. -/
theorem l0_add_installs_l1_content (ps : Store.ParamSet) (id : Nat) (now : Int) (salt pw : Bytes) :
    durableAtAck (init []) (addTrace .A (Store.newContent ps id now salt pw [])) .A
      (.clean (Store.newContent ps id now salt pw [])) = true :=
  C09.model_add_durable _

end Whawty.Persist.C15

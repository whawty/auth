/-
  C16 — The store directory stays valid; the consistency check is exact.
-/
import Whawty.Model.StoreHist
import Whawty.Lemmas.StoreInv
import Whawty.Model.Cli
namespace Whawty.Store.C16
open Whawty.Rec

/-- Exactness of `Check`, without any reference to the iteration order: it accepts iff every
    entry other than `.tmp` has extension `.user` / `.admin` and (for a valid user name) the
    other extension is absent, and some `.admin` entry with a valid name holds a supported hash. -/
theorem check_exact (c : Cfg) (d : Dir) :
    check c d = true ↔
      (∀ e ∈ d, e.1 = tmpName ∨ ∃ valid u adm, checkUserFile e.1 = some (valid, u, adm) ∧
          (valid = true → has d (u ++ if adm then userExt else adminExt) = false)) ∧
      (∃ e ∈ d, e.1 ≠ tmpName ∧ ∃ u, checkUserFile e.1 = some (true, u, true) ∧ supported c e.2 = true) := by
  simp only [check_eq, Bool.and_eq_true, List.all_eq_true, List.any_eq_true, entryOk_iff, entryAdmin_iff]

/-- The accept / reject outcome does not depend on the order in which `readdir` returns the
    entries. -/
theorem check_perm_invariant (c : Cfg) {d d' : Dir} (h : d.Perm d') : check c d = check c d' := by
  rw [check_eq, check_eq, h.any_eq, h.all_eq, funext (entryOk_perm h)]

/-- An invalid-named file never counts as the administrator a valid store requires. -/
theorem invalid_named_admin_never_counts (c : Cfg) (e : Bytes × Node) (valid : Bool) (u : Bytes) (adm : Bool)
    (hc : checkUserFile e.1 = some (valid, u, adm)) (hv : valid = false) : entryAdmin c e = false := by
  subst hv
  simp [entryAdmin, hc]

/-- Initialisation succeeds only on an empty directory (ignoring a `.tmp` directory). -/
theorem init_only_on_empty {c : Cfg} {d d' : Dir} {u pw salt : Bytes} {now : Int}
    (h : init c d u pw now salt = .ok d') : d = [] ∨ d = [(tmpName, .dir)] := by
  unfold init isDirEmpty at h
  grind

/-- … and then produces a directory that passes the check. -/
theorem init_produces_valid_store {c : Cfg} {d d' : Dir} {u pw salt : Bytes} {now : Int}
    (h : init c d u pw now salt = .ok d')
    (hlt : c.default < 2 ^ 64)
    (hplain : ∀ id ps, c.lookup id = some ps → ∀ ch ∈ ps.formatId, ch ≠ colon ∧ ch ≠ nl)
    (ht : -(2 ^ 63 : Int) ≤ now ∧ now < 2 ^ 63) (hsalt : salt ≠ [])
    (hdig : ∀ id ps, c.lookup id = some ps → ps.digest salt pw ≠ []) : check c d' = true := by
  have hempty := init_only_on_empty h
  unfold init at h
  split at h
  · cases h
  · obtain ⟨ps, a, he, hps, hw⟩ := add_ok h
    -- the directory holds at most the work area, and the new file is an administrator's
    have hd : ∀ e ∈ d, e.1 = tmpName := by rcases hempty with rfl | rfl <;> simp
    rw [check_iff_valid]
    refine hw.valid (fun e he => .inl (hd e he)) (fun v a _ hhas => ?_) (.inl rfl) (exists_ok_iff.1 he).1
      (has_of_exists_false he _) fun _ =>
        supported_newContent c ps now salt pw [] hps (hplain _ _ hps) ht.1 ht.2 hlt hsalt (hdig _ _ hps)
    obtain ⟨x, hx⟩ := has_iff_mem.1 hhas
    exact absurd (hd _ hx) (fileName_ne_tmpName v a)

example : checkUserFile ([97] ++ adminExt) = some (true, [97], true) := by
  decide


/-! ### The store stays valid over every history that keeps an administrator -/

/-- What the oracle inputs of a write must satisfy for the written record to be a supported
    one: a time in the machine range, a non-empty salt and a non-empty digest (true of every
    real write: 16/32 random bytes, tag length ≥ 1). -/
def WriteOk (c : Cfg) (pw salt : Bytes) (now : Int) : Prop :=
  (-(2 ^ 63 : Int) ≤ now ∧ now < 2 ^ 63) ∧ salt ≠ [] ∧ ∀ id ps, c.lookup id = some ps → ps.digest salt pw ≠ []

def OpOk (c : Cfg) : Op → Prop
  | .add _ pw _ now salt => WriteOk c pw salt now
  | .update _ pw now salt => WriteOk c pw salt now
  | _ => True

/-- The operation removes or demotes the LAST administrator: no supported, valid-named `.admin`
    file of any other user exists. -/
def TouchesLastAdmin (c : Cfg) (d : Dir) : Op → Prop
  | .remove u => ¬ HasOtherAdmin c d u
  | .setAdmin u false => ¬ HasOtherAdmin c d u
  | _ => False

structure CfgOk (c : Cfg) : Prop where
  defaultLt : c.default < 2 ^ 64
  plain : ∀ id ps, c.lookup id = some ps → ∀ ch ∈ ps.formatId, ch ≠ colon ∧ ch ≠ nl

theorem WriteOk.supported {c : Cfg} {pw salt : Bytes} {now : Int} (hw : WriteOk c pw salt now) (hc : CfgOk c)
    {ps : ParamSet} (hps : c.lookup c.default = some ps) (old : Bytes) :
    supported c (.file (newContent ps c.default now salt pw old)) = true :=
  supported_newContent c ps now salt pw old hps (hc.plain _ _ hps) hw.1.1 hw.1.2 hc.defaultLt hw.2.1 (hw.2.2 _ _ hps)

/-- One operation — successful or failing — on a directory that passes the check leaves a
    directory that passes the check, unless it removes or demotes the last administrator. -/
theorem step_preserves_valid {c : Cfg} {d : Dir} (hc : CfgOk c) (hv : check c d = true) (op : Op)
    (hop : OpOk c op) (hl : ¬ TouchesLastAdmin c d op) : check c (step c d op) = true := by
  rw [check_iff_valid] at hv ⊢
  cases op with
  | add u pw adm now salt =>
    simp only [step]
    cases hadd : add c d u pw adm now salt with
    | error e => exact hv
    | ok d' =>
      obtain ⟨ps, a, he, hps, hw⟩ := add_ok hadd
      exact hw.valid hv.wellNamed hv.noTwoFiles (.inr hv.admin) (exists_ok_iff.1 he).1 (has_of_exists_false he _)
        fun _ => WriteOk.supported hop hc hps []
  | update u pw now salt =>
    simp only [step]
    cases hup : update c d u pw now salt with
    | error e => exact hv
    | ok d' =>
      obtain ⟨ps, a, old, he, hold, -, hps, hw⟩ := update_ok hup
      have hvn := (exists_ok_iff.1 he).1
      -- the user's present file is there: the other extension is absent
      exact hw.valid hv.wellNamed hv.noTwoFiles (.inr hv.admin) hvn
        (hv.noTwoFiles u a hvn (by simp [has_eq, hold])) fun _ => WriteOk.supported hop hc hps old
  | setAdmin u st =>
    simp only [step]
    cases hsa : setAdmin d u st with
    | error e => exact hv
    | ok d' =>
      obtain ⟨a, x, he, hx, ⟨-, rfl⟩ | ⟨rfl, rfl⟩⟩ := setAdmin_ok hsa
      · exact hv
      · refine hv.rename ?_
        cases st with
        | false =>
          -- a demotion: by hypothesis not of the last administrator
          exact (hasOtherAdmin_iff c d u).1 (Classical.not_not.1 hl)
        | true =>
          -- a promotion: `u` has no `.admin` file, so the administrator that exists is another user
          obtain ⟨v, hvn, y, hy, hs⟩ := hv.admin
          refine ⟨v, ?_, hvn, y, hy, hs⟩
          rintro rfl
          have := (exists_ok_iff.1 he).2.2.1
          simp [has_iff_mem.2 ⟨y, hy⟩] at this
  | remove u =>
    simp only [step, remove]
    by_cases hvn : validName u = true
    · simp only [hvn, Bool.not_true, Bool.false_eq_true, if_false]
      exact hv.remove ((hasOtherAdmin_iff c d u).1 (Classical.not_not.1 hl))
    · simpa only [hvn, Bool.not_false, if_true] using hv

/-- A history is safe when every operation has well-formed oracle inputs and none of them, in
    the state it is applied to, removes or demotes the last administrator. -/
def SafeHist (c : Cfg) : Dir → List Op → Prop
  | _, [] => True
  | d, op :: rest => OpOk c op ∧ ¬ TouchesLastAdmin c d op ∧ SafeHist c (step c d op) rest

/-- **The store stays valid.** From a directory that passes the check, after EVERY prefix of
    every safe history — any length, any users, successful and failing operations — the
    directory passes the check. -/
theorem ops_preserve_valid {c : Cfg} (hc : CfgOk c) (h : List Op) :
    ∀ d, check c d = true → SafeHist c d h → ∀ k, check c (run c d (h.take k)) = true := by
  induction h with
  | nil => intro d hv _ k; simpa [run] using hv
  | cons op rest ih =>
    intro d hv hs k
    cases k with
    | zero => simpa [run] using hv
    | succ k =>
      obtain ⟨hop, hl, hrest⟩ := hs
      simp only [List.take_succ_cons, run, List.foldl_cons]
      exact ih (step c d op) (step_preserves_valid hc hv op hop hl) hrest k

/-- A directory that passes the check never holds two files for one (valid) user name … -/
theorem valid_never_two_files {c : Cfg} {d : Dir} (hv : check c d = true) (u : Bytes) (hvn : validName u = true) :
    ¬ (has d (u ++ adminExt) = true ∧ has d (u ++ userExt) = true) := fun ⟨hA, hU⟩ =>
  Bool.false_ne_true ((((check_iff_valid c d).1 hv).noTwoFiles u true hvn hA).symm.trans hU)

/-- … hence no state of a safe history does. (The work area is structurally empty in this
    layer: `.tmp` is a `Node.dir` without content; that the real operations leave it empty is
    `law.C16.work_area_empty_after_op` on every step of the run and the trace skeletons.) -/
theorem history_never_two_files {c : Cfg} (hc : CfgOk c) (h : List Op) (d : Dir) (hv : check c d = true)
    (hs : SafeHist c d h) (k : Nat) (u : Bytes) (hvn : validName u = true) :
    ¬ (has (run c d (h.take k)) (u ++ adminExt) = true ∧ has (run c d (h.take k)) (u ++ userExt) = true) :=
  valid_never_two_files (ops_preserve_valid hc h d hv hs k) u hvn

/- Non-vacuity: a store with two administrators; removing one of them is safe, removing both
   is not (the second removal touches the last administrator). -/
section NonVacuity
def psX : ParamSet := ⟨[120], fun _ _ => [1]⟩                       -- format id "x", constant digest
def cX : Cfg := ⟨1, [(1, psX)]⟩
def recX : Bytes := formatLine [120] 5 1 (hashStrOf [7] [1])
def dX : Dir := [([97] ++ adminExt, .file recX), ([98] ++ adminExt, .file recX), (tmpName, .dir)]
example : check cX dX = true := by decide +kernel
example : check cX (run cX dX [.remove [97]]) = true := by decide +kernel
example : check cX (run cX dX [.remove [97], .remove [98]]) = false := by decide +kernel
end NonVacuity

end Whawty.Store.C16

namespace Whawty.Cli.C16

theorem gate_ordinary (e : Env) (c : Cmd) (hc : c ≠ .init ∧ c ≠ .check) :
    gate e c = if !e.configLoads then .exit3 else if e.doCheck && !e.dirValid then .exit3 else .proceeds := by
  cases c <;> first | rfl | exact absurd rfl hc.1 | exact absurd rfl hc.2

/-- The agent refuses to run any command (other than `init` and `check` themselves) on a
    directory that fails the check — unless checking is explicitly disabled. -/
theorem refuses_invalid_directory (e : Env) (c : Cmd) (hc : c ≠ .init ∧ c ≠ .check)
    (hdo : e.doCheck = true) (hv : e.dirValid = false) : gate e c = .exit3 := by
  rw [gate_ordinary e c hc, hdo, hv]
  cases e.configLoads <;> rfl

/-- Disabling the check is the ONLY way past an invalid directory. -/
theorem proceeds_only_if_valid_or_disabled (e : Env) (c : Cmd) (hc : c ≠ .init ∧ c ≠ .check)
    (hp : gate e c = .proceeds) : e.configLoads = true ∧ (e.dirValid = true ∨ e.doCheck = false) := by
  rw [gate_ordinary e c hc] at hp
  obtain ⟨cl, dv, de, dc⟩ := e
  cases cl <;> cases dv <;> cases dc <;> simp_all

/-- `check` reports exactly the check; `init` only proceeds on an empty directory. -/
theorem check_command_exact (e : Env) : gate e .check = .exit0 ↔ (e.configLoads = true ∧ e.dirValid = true) := by
  simp [gate]

theorem init_command_only_on_empty (e : Env) (h : gate e .init = .proceeds) : e.dirEmpty = true := by
  simp only [gate] at h
  split at h
  · simp_all
  · simp at h

end Whawty.Cli.C16

/-
  C17 — No password failing the configured policy is ever stored.
-/
import Whawty.Lemmas.Policy
import Whawty.Lemmas.Record
import Whawty.Lemmas.Utf8
namespace Whawty.Policy.C17

/-- A store change implies that the policy accepted the password; a refusal leaves the store
    unchanged (every write path of the agent — init, add, update, from the CLI or the HTTP API,
    by an administrator or by the user — goes through this one gate). -/
theorem store_change_implies_policy {σ : Type} (p : PolicyCfg) (z : Estimate) (st : σ) (op : Option σ)
    (h : (guardedWrite p z st op).2 ≠ st) : policyOk p z = true :=
  Decidable.by_contra fun hp => h (by rw [guardedWrite_eq, if_neg hp])

theorem refusal_changes_nothing {σ : Type} (p : PolicyCfg) (z : Estimate) (st : σ) (op : Option σ)
    (h : (guardedWrite p z st op).1 = none) : (guardedWrite p z st op).2 = st := by
  rw [guardedWrite_eq] at h ⊢
  split
  · rw [if_pos ‹_›] at h
    cases h
    rfl
  · rfl

/-- A password that satisfies the policy is not refused on policy grounds: the outcome is the
    store's own. -/
theorem policy_ok_not_refused {σ : Type} (p : PolicyCfg) (z : Estimate) (st : σ) (op : Option σ)
    (h : policyOk p z = true) : (guardedWrite p z st op).1 = op := by
  rw [guardedWrite_eq, if_pos h]

theorem condition_parser_exact (s : Bytes) (c : Cond) :
    parseCondition s = some c ↔
      ∃ k t, fields s = [k, geB, t] ∧ Rec.parseUint64 t = some c.threshold ∧
        ((k = scoreB ∧ c.kind = .score ∧ c.threshold ≤ 4) ∨ (k = entropyB ∧ c.kind = .entropy) ∨
         (k = timeB ∧ c.kind = .time)) := by
  -- the three names differ, so the order of the parser's tests on `k` does not matter
  have h1 : scoreB ≠ entropyB := by decide
  have h2 : scoreB ≠ timeB := by decide
  have h3 : entropyB ≠ timeB := by decide
  unfold parseCondition
  grind [cases Cond]

/-- An unparsable policy configuration stops the agent from starting rather than disabling
    the policy: `newPolicy` yields "no policy" only for the empty policy type. -/
theorem bad_policy_stops_agent (ty cond : Bytes) (h : newPolicy ty cond = some .none) : ty = [] := by
  unfold newPolicy at h
  split at h
  · assumption
  · split at h <;> simp at h

/-- `strings.Fields` as modelled: the fuel of the scan is irrelevant once it covers the input … -/
theorem fields_fuel_irrelevant (s : Bytes) (n : Nat) (h : s.length ≤ n) : fieldsAux n s [] = fields s := by
  obtain ⟨k, rfl⟩ := Nat.exists_eq_add_of_le h
  exact fieldsAux_fuel _ k s [] (Nat.le_refl _)

/-- … and its fields are words: non-empty, without any ASCII white space inside. -/
theorem fields_are_words (s : Bytes) : ∀ f ∈ fields s, f ≠ [] ∧ ∀ b ∈ f, isSpace b = false :=
  fieldsAux_words _ s [] (by simp)

/-- A condition that parses has exactly three words; none of them contains white space, so the
    accepted spellings are exactly `score|entropy|time`, `>=`, a decimal number, separated (and
    surrounded) by any white space — Unicode white space included, as `strings.Fields` has it. -/
theorem parsed_condition_has_three_words (s : Bytes) (c : Cond) (h : parseCondition s = some c) :
    (fields s).length = 3 := by
  obtain ⟨k, t, hf, _⟩ := (condition_parser_exact s c).mp h
  rw [hf]; rfl

/-- The threshold of an accepted condition is written in decimal digits only — no sign, no prefix
    (`0x`, `0o`, a leading zero is just a zero), no separators, no exponent — and is its decimal value,
    below 2^64. -/
theorem parsed_threshold_is_plain_decimal (s : Bytes) (c : Cond) (h : parseCondition s = some c) :
    ∃ k t, fields s = [k, geB, t] ∧ t ≠ [] ∧ (∀ b ∈ t, Rec.isDigit b = true) ∧
      Rec.digitsVal t 0 = some c.threshold ∧ c.threshold < 2 ^ 64 := by
  obtain ⟨k, t, hf, ht, _⟩ := (condition_parser_exact s c).mp h
  obtain ⟨hne, hd, hlt⟩ := (Rec.parseUint64_eq_some_iff t _).mp ht
  exact ⟨k, t, hf, hne, Rec.digitsVal_all_digits t 0 _ hd, hd, hlt⟩

-- "entropy >= 040" is forty, not thirty-two
example : parseCondition [101, 110, 116, 114, 111, 112, 121, 32, 62, 61, 32, 48, 52, 48] = some ⟨.entropy, 40⟩ := by decide +kernel

/-- **The model's `fields` is Go's `strings.Fields`** as its documentation defines it: the maximal
    substrings between `unicode.IsSpace` runes, with runes decoded the way `for … range` decodes
    them (`Utf8.decodeRune`: overlong, surrogate, out-of-range and truncated spellings are one-byte
    `RuneError`s). The byte-level scan of the model needs no decoder because every white-space rune
    starts with a lead byte, and a lead byte is always at a rune boundary — proved, not assumed:
    `Utf8.spaceLen_eq_rune`, `Utf8.decodeRune_shape`, `Utf8.spaceLen_cont`. -/
theorem fields_is_strings_Fields (s : Bytes) : fields s = Utf8.fieldsSpec s :=
  (Utf8.fieldsRune_eq_fieldsAux s.length s [] (Nat.le_refl _)).symm

/- Non-vacuity -/
example : Utf8.decodeRune [0xE2, 0x82, 0xAC, 65] = (0x20AC, 3) := by decide +kernel        -- "€A"
example : Utf8.decodeRune [0xC0, 0xA0] = (Utf8.runeError, 1) := by decide +kernel           -- overlong U+0020
example : Utf8.decodeRune [0xED, 0xA0, 0x80] = (Utf8.runeError, 1) := by decide +kernel     -- a surrogate
example : Utf8.fieldsSpec [97, 0xE2, 0x80, 0x83, 98, 0xC2, 0xA0] = [[97], [98]] := by decide +kernel
-- "score\u00a0>=\u20003" (no-break space, en quad) parses; U+200B (zero width space) is not white space
example : parseCondition [115, 99, 111, 114, 101, 0xC2, 0xA0, 62, 61, 0xE2, 0x80, 0x80, 51] = some ⟨.score, 3⟩ := by decide +kernel
example : parseCondition [115, 99, 111, 114, 101, 0xE2, 0x80, 0x8B, 62, 61, 32, 51] = none := by decide +kernel
example : fields [0xE3, 0x80, 0x80, 97, 0xE2, 0x80, 0xA8, 98, 0xC2] = [[97], [98, 0xC2]] := by decide +kernel
example : parseCondition [115, 99, 111, 114, 101, 32, 62, 61, 32, 51] = some ⟨.score, 3⟩ := by decide +kernel   -- "score >= 3"
example : parseCondition [115, 99, 111, 114, 101, 32, 62, 61, 32, 53] = none := by decide +kernel                  -- "score >= 5"
example : parseCondition [115, 99, 111, 114, 101, 32, 62, 32, 51] = none := by decide +kernel                      -- "score > 3"

end Whawty.Policy.C17

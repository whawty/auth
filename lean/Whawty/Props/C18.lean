/-
  C18 — Configuration loading is exact (this file: the loader; the reload step of the agent
  is in the agent model, see Props/C18 theorems `reload_*` in Whawty/Props/C18Reload.lean).
  `fromConfig` is the model of store/config.go on the decoded document; unknown keys and type
  errors are decode errors of yaml.v3 (KnownFields(true)) and never reach it.
-/
import Whawty.Model.Config
namespace Whawty.Config.C18

/-- A parameter set is well-formed: id greater than zero, exactly one algorithm, and that
    algorithm's constructor accepts its parameters. -/
def setOk (s : SetCfg) : Bool :=
  s.id ≠ 0 &&
  (match s.scrypt, s.argon with
   | some sc, none => scryptOk sc
   | none, some ar => argonOk ar
   | _, _ => false)

/-- One turn of the loop: a well-formed set is entered under its id (replacing an earlier set
    with that id), anything else is an error. -/
theorem loadSets_cons (s : SetCfg) (rest : List SetCfg) (acc : List (Nat × Alg)) :
    loadSets (s :: rest) acc =
      if setOk s then loadSets rest ((s.id, if s.scrypt.isSome then .scrypt else .argon) :: acc.filter (·.1 ≠ s.id))
      else none := by
  obtain ⟨id, sc, ar⟩ := s
  cases sc <;> cases ar <;> by_cases h0 : id = 0 <;> simp [loadSets, setOk, h0]

theorem loadSets_isSome (l : List SetCfg) (acc : List (Nat × Alg)) :
    (loadSets l acc).isSome = l.all setOk := by
  induction l generalizing acc with
  | nil => rfl
  | cons s rest ih =>
    rw [loadSets_cons, List.all_cons]
    cases setOk s
    · rfl
    · exact ih _

theorem ids_enter (k id : Nat) (alg : Alg) (acc : List (Nat × Alg)) :
    (∃ x ∈ (k, alg) :: acc.filter (·.1 ≠ k), x.1 = id) ↔ k = id ∨ ∃ x ∈ acc, x.1 = id := by
  simp only [List.mem_cons, List.mem_filter]
  grind

theorem loadSets_ids (l : List SetCfg) (acc sets : List (Nat × Alg)) (h : loadSets l acc = some sets) (id : Nat) :
    (∃ x ∈ sets, x.1 = id) ↔ (∃ s ∈ l, s.id = id) ∨ ∃ x ∈ acc, x.1 = id := by
  induction l generalizing acc with
  | nil => cases h; simp
  | cons s rest ih =>
    rw [loadSets_cons, Option.ite_none_right_eq_some] at h
    rw [ih _ h.2, ids_enter]
    simp only [List.mem_cons, exists_eq_or_imp, or_assoc]
    exact or_left_comm

/-- The loader accepts exactly the well-formed configurations: non-empty base directory, every
    set well-formed (id > 0, exactly one algorithm, constructible), and a default naming a
    defined set — or default 0 with no sets at all. -/
theorem loader_exact (c : FileCfg) :
    fromConfig c = true ↔
      c.basedirEmpty = false ∧ c.params.all setOk = true ∧
      ((c.default = 0 ∧ c.params = []) ∨ (c.default ≠ 0 ∧ c.params.any (·.id = c.default) = true)) := by
  unfold fromConfig
  have hsome := loadSets_isSome c.params []
  cases hl : loadSets c.params [] with
  | none => simp [← hsome, hl]
  | some sets =>
    have hids := loadSets_ids c.params [] sets hl
    -- no set is loaded only from an empty document
    have hnil : sets = [] ↔ c.params = [] := by
      refine ⟨fun e => ?_, fun e => by rw [e] at hl; cases hl; rfl⟩
      cases hp : c.params with
      | nil => rfl
      | cons s _ => simpa [e] using (hids s.id).mpr (Or.inl ⟨s, by simp [hp], rfl⟩)
    cases c.basedirEmpty
    · by_cases hd : c.default = 0 <;> simp [← hsome, hl, hd, hnil, hids]
    · simp

/-- Every accepted argon2id set is inside the primitive's domain (time, threads, length ≥ 1):
    with the hypothesis that argon2.IDKey is total there (it panics only for time < 1 or
    threads < 1 and fails for length 0 — observed), accepted sets hash and verify. -/
theorem accepted_argon_in_domain (c : FileCfg) (h : fromConfig c = true) :
    ∀ s ∈ c.params, ∀ a, s.argon = some a → 1 ≤ a.time ∧ 1 ≤ a.threads ∧ 1 ≤ a.length := by
  intro s hs a ha
  have hok := List.all_eq_true.mp ((loader_exact c).mp h).2.1 s hs
  cases hsc : s.scrypt <;> simp_all [setOk, argonOk]

/-- Every accepted scrypt set has a 32-byte key and a cost the library accepts. -/
theorem accepted_scrypt_in_domain (c : FileCfg) (h : fromConfig c = true) :
    ∀ s ∈ c.params, ∀ sc, s.scrypt = some sc → sc.hmackeyLen = some 32 ∧ sc.cost ≤ 31 := by
  intro s hs sc hsc
  have hok := List.all_eq_true.mp ((loader_exact c).mp h).2.1 s hs
  cases ha : s.argon <;> simp_all [setOk, scryptOk]

/- Non-vacuity. -/
example : fromConfig ⟨false, 2, [⟨1, some ⟨some 32, 14, none, none⟩, none⟩, ⟨2, none, some ⟨1, 64, 1, 32⟩⟩]⟩ = true := by decide
example : fromConfig ⟨false, 2, [⟨2, none, some ⟨0, 64, 1, 32⟩⟩]⟩ = false := by decide   -- time 0 (D8)
example : fromConfig ⟨false, 0, []⟩ = true := by decide
example : fromConfig ⟨false, 0, [⟨1, none, some ⟨1, 64, 1, 32⟩⟩]⟩ = false := by decide

end Whawty.Config.C18

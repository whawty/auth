/-
  C18 — reload is all-or-nothing and does not disturb requests in flight.
-/
import Whawty.Model.Reload
namespace Whawty.Reload.C18

/-- One reload: the complete previous configuration, or the complete new one — and the new one
    only if it loaded and its directory passed the check. -/
theorem reload_all_or_nothing (cur : Live) (r : Loaded) :
    (reload cur r = cur ∧ ∀ cfg, r ≠ .ok cfg true) ∨ (∃ cfg, r = .ok cfg true ∧ reload cur r = cfg) := by
  rcases r with _ | ⟨cfg, _ | _⟩
  · exact .inl ⟨rfl, nofun⟩
  · exact .inl ⟨rfl, nofun⟩
  · exact .inr ⟨cfg, rfl, rfl⟩

/-- Never a mixture: base directory, default and parameter sets of the live configuration all
    come from the same configuration. -/
theorem reload_no_mixture (cur : Live) (r : Loaded) :
    let l := reload cur r
    (l.base = cur.base ∧ l.default = cur.default ∧ l.sets = cur.sets) ∨
    (∃ cfg, r = .ok cfg true ∧ l.base = cfg.base ∧ l.default = cfg.default ∧ l.sets = cfg.sets) := by
  rcases reload_all_or_nothing cur r with ⟨h, _⟩ | ⟨cfg, hr, h⟩
  · exact Or.inl (by simp [h])
  · exact Or.inr ⟨cfg, hr, by simp [h]⟩

theorem failed_reload_keeps_everything (cur : Live) : reload cur .bad = cur ∧ ∀ cfg, reload cur (.ok cfg false) = cur :=
  ⟨rfl, fun _ => rfl⟩

theorem next_agent {c : Agent.Cfg} {s t : St} {al : Agent.Label} (h : next c s (.agent al) = some t) :
    Agent.next c s.ag al = some t.ag ∧ t.live = s.live := by
  obtain ⟨a, ha, rfl⟩ := Option.map_eq_some_iff.1 h
  exact ⟨ha, rfl⟩

theorem next_reload {c : Agent.Cfg} {s t : St} {r : Loaded} (h : next c s (.reload r) = some t) :
    s.ag.pc = .select ∧ t.ag = s.ag ∧ t.live = reload s.live r := by
  obtain ⟨hp, ⟨⟩⟩ := Option.ite_none_right_eq_some.1 h
  exact ⟨hp, rfl, rfl⟩

/-- Requests in flight: the reload step leaves the dispatcher's queues, waiting clients, program
    counter and execution history exactly as they were. -/
theorem reload_preserves_requests (c : Agent.Cfg) (s t : St) (r : Loaded)
    (h : next c s (.reload r) = some t) : t.ag = s.ag :=
  (next_reload h).2.1

/-- The live configuration after a run is the last one that was offered complete and valid, or
    the initial one if there was none. -/
theorem live_eq_last_offered {c : Agent.Cfg} {ls : List Label} {s t : St} (h : run c s ls = some t) :
    t.live = (offered ls).getLast?.getD s.live := by
  induction ls generalizing s with
  | nil => cases h; rfl
  | cons l rest ih =>
    obtain ⟨m, hn, hr⟩ := Option.bind_eq_some_iff.1 h
    rw [ih hr]
    cases l with
    | agent al => rw [(next_agent hn).2]; rfl
    | reload r =>
      rw [(next_reload hn).2.2]
      rcases r with _ | ⟨cfg, _ | _⟩ <;> simp [offered, reload, List.getLast?_cons]

/-- Along EVERY run of the agent with any number of reload signals at any points: the live
    configuration is the initial one or one of the configurations that were offered complete
    and valid — never anything else. -/
theorem live_is_initial_or_offered (c : Agent.Cfg) (ls : List Label) :
    ∀ s t, run c s ls = some t → t.live = s.live ∨ t.live ∈ offered ls := by
  intro s t h
  rw [live_eq_last_offered h]
  cases hl : (offered ls).getLast? with
  | none => exact .inl rfl
  | some x => exact .inr (List.mem_of_getLast? hl)

/-- The dispatcher component of a run with reloads is a run of the plain dispatcher: every C10
    theorem (no reachable dispatcher deadlock, FIFO progress, answers to the right client) holds
    unchanged with reload signals arriving at any time. -/
theorem agent_component_reachable (c : Agent.Cfg) (ls : List Label) :
    ∀ s t, Agent.Reach c s.ag → run c s ls = some t → Agent.Reach c t.ag := by
  induction ls with
  | nil => intro s t hr h; cases h; exact hr
  | cons l rest ih =>
    intro s t hr h
    obtain ⟨m, hn, hrun⟩ := Option.bind_eq_some_iff.1 h
    refine ih m t ?_ hrun
    cases l with
    | agent al => exact hr.step al (next_agent hn).1
    | reload r => rw [(next_reload hn).2.1]; exact hr

/- Non-vacuity. -/
example : reload ⟨[65], 1, [1, 2]⟩ (.ok ⟨[66], 2, [1, 2, 3]⟩ true) = ⟨[66], 2, [1, 2, 3]⟩ := rfl
example : reload ⟨[65], 1, [1, 2]⟩ (.ok ⟨[66], 2, [1, 2, 3]⟩ false) = ⟨[65], 1, [1, 2]⟩ := rfl

end Whawty.Reload.C18

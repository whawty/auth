/-
  C19 — Update hooks: no change un-notified, bursts coalesced, only safe files run.
-/
import Whawty.Model.Hooks
import Whawty.Lemmas.Agent
namespace Whawty.Hooks.C19

inductive Step (R : Int) (s : St) : Ev → St → Prop
  | leading {τ} : s.pending = 0 → Step R s (.notify τ) ⟨1, true, τ + R, τ :: s.runs⟩
  | coalesced {τ} : s.pending ≠ 0 → Step R s (.notify τ) { s with pending := s.pending + 1 }
  | fire {τ} : s.armed = true → τ ≥ s.deadline →
      Step R s (.fire τ) ⟨0, false, s.deadline, if s.pending > 1 then τ :: s.runs else s.runs⟩

theorem step_some {R : Int} {s t : St} {e : Ev} (h : step R s e = some t) : Step R s e t := by
  revert h
  fun_cases step R s e <;> intro h <;> cases h <;> constructor <;> simp_all

/- Invariant of the run loop: the timer is armed exactly while notifications are pending. -/
theorem armed_iff_init : (init.armed = true ↔ init.pending ≥ 1) := by simp [init]

theorem armed_iff_run (R : Int) (s t : St) (es : List Ev) (hi : s.armed = true ↔ s.pending ≥ 1)
    (h : run R s es = some t) : (t.armed = true ↔ t.pending ≥ 1) := by
  induction es generalizing s with
  | nil => cases h; exact hi
  | cons e es ih =>
    obtain ⟨u, hs, hu⟩ := Option.bind_eq_some_iff.1 h
    refine ih u ?_ hu
    cases step_some hs with
    | leading | fire => simp
    | coalesced hp => exact ⟨fun _ => Nat.succ_pos _, fun _ => hi.mpr (Nat.pos_of_ne_zero hp)⟩

/-- No change stays un-notified: a notification either triggers a round at once (leading
    edge) or finds the timer armed with at least two notifications pending, so that the firing
    of that timer runs a round — at a time not earlier than the notification. -/
theorem no_change_unnotified (R : Int) (s t : St) (τ : Int) (hi : s.armed = true ↔ s.pending ≥ 1)
    (h : step R s (.notify τ) = some t) :
    (t.runs = τ :: s.runs) ∨
    (t.armed = true ∧ t.pending ≥ 2 ∧ ∀ τ' u, step R t (.fire τ') = some u → u.runs = τ' :: t.runs) := by
  cases step_some h with
  | leading => exact .inl rfl
  | coalesced hp =>
    have h2 : s.pending + 1 ≥ 2 := Nat.succ_le_succ (Nat.pos_of_ne_zero hp)
    refine .inr ⟨hi.mpr (Nat.pos_of_ne_zero hp), h2, fun τ' u hu => ?_⟩
    cases step_some hu with
    | fire => exact if_pos h2

/-- The armed timer does fire: once `t ≥ deadline` the fire event is enabled. -/
theorem fire_enabled (R : Int) (s : St) (τ : Int) (ha : s.armed = true) (hd : τ ≥ s.deadline) :
    (step R s (.fire τ)).isSome = true := by
  simp [step, ha, hd]

/-- A notification and the timer becoming ready at the same instant: both orders in which
    `select` may take them end with a round at that instant. -/
theorem race_both_orders (R : Int) (s : St) (τ : Int) (ha : s.armed = true) (hd : τ ≥ s.deadline) (hp : s.pending ≥ 1) :
    ((step R s (.notify τ)).bind (step R · (.fire τ))).map (fun b => (b.runs, b.pending)) = some (τ :: s.runs, 0) ∧
    ((step R s (.fire τ)).bind (step R · (.notify τ))).map (fun b => b.runs.head?) = some (some τ) := by
  have hne : ¬ s.pending = 0 := Nat.ne_of_gt hp
  have hgt : s.pending + 1 > 1 := Nat.succ_lt_succ hp
  constructor
  · simp [step, hne, ha, hd, hgt]
  · simp [step, ha, hd]

/-- Coalescing: while the timer is armed, no round happens before its deadline — a burst of
    any number of notifications inside the interval produces no round at all before the timer
    fires, and then exactly one (trailing) round. Together with the leading round that armed the
    timer, that is at most two rounds per rate-limit interval. -/
theorem burst_coalesced (R : Int) (s t : St) (e : Ev) (hi : s.armed = true ↔ s.pending ≥ 1) (ha : s.armed = true)
    (h : step R s e = some t) (hr : t.runs ≠ s.runs) :
    ∃ τ, e = .fire τ ∧ τ ≥ s.deadline ∧ t.runs = τ :: s.runs ∧ t.armed = false := by
  cases step_some h with
  | leading hp => exact absurd hp (Nat.ne_of_gt (hi.mp ha))
  | coalesced => exact absurd rfl hr
  | fire _ hd =>
    refine ⟨_, rfl, hd, ?_, rfl⟩
    by_cases hgt : s.pending > 1
    · exact if_pos hgt
    · exact absurd (if_neg hgt) hr

/-- A leading round arms the timer `R` after itself. -/
theorem leading_round_arms_timer (R : Int) (s t : St) (τ : Int) (hs : s.pending = 0)
    (h : step R s (.notify τ) = some t) : t.runs = τ :: s.runs ∧ t.armed = true ∧ t.deadline = τ + R := by
  cases step_some h with
  | leading => exact ⟨rfl, rfl, rfl⟩
  | coalesced hp => exact absurd hs hp

/-- Soundness of the log checker: an accepted log has a round at or after every notification,
    and any three consecutive rounds span at least `R - eps`. -/
theorem hookLogOk_sound (R eps : Int) (notifies runs : List Int) (h : hookLogOk R eps notifies runs = true) :
    (∀ n ∈ notifies, ∃ r ∈ runs, r ≥ n) ∧ spaced R eps runs = true := by
  simp only [hookLogOk, Bool.and_eq_true, List.all_eq_true, coveredBy, List.any_eq_true, decide_eq_true_eq] at h
  exact h

theorem spaced_spec (R eps : Int) (a b c : Int) (rest : List Int) (h : spaced R eps (a :: b :: c :: rest) = true) :
    c - a ≥ R - eps ∧ spaced R eps (b :: c :: rest) = true := by
  rwa [spaced, Bool.and_eq_true, decide_eq_true_eq] at h

/-- Eligibility is exact: a hook is started iff the directory is not world-writable, the name
    is not hidden, the entry is a regular file or a symlink, and some execute bit is set. -/
theorem eligibility_exact (ww : Bool) (name : Bytes) (reg sym : Bool) (perm : Nat) :
    eligible ww name reg sym perm = true ↔
      ww = false ∧ name.head? ≠ some 46 ∧ (reg = true ∨ sym = true) ∧ (perm % 512) &&& 73 ≠ 0 := by
  simp [eligible, and_assoc]

/-- Notifications are sent only by successful add / update / set-admin and by remove: in the
    dispatcher's transition system the notify step is reached only from a request whose
    `notifies` flag (operation succeeded and notifies) is set. -/
theorem notify_only_on_success (c : Agent.Cfg) (r q : Agent.Req) (h : Agent.afterExec c r = .sendNotify q) :
    q = r ∧ r.notifies = true := by
  rcases Agent.afterExec_cases c r with ⟨e, _⟩ | ⟨e, hn⟩ | e <;> rw [e] at h
  · cases h
  · cases h; exact ⟨rfl, hn⟩
  · rcases Agent.respondOrSelect_cases r with ⟨e, _⟩ | e <;> rw [e] at h <;> cases h

/- Non-vacuity: a burst of five notifications in one interval gives a leading and a trailing round. -/
example : (run 5 init [.notify 0, .notify 1, .notify 2, .notify 3, .notify 4, .fire 5]).map (·.runs) = some [5, 0] := by decide
example : (run 5 init [.notify 0, .fire 5, .notify 5]).map (·.runs) = some [5, 0] := by decide
example : eligible false [104, 105] true false 0o755 = true := by decide
example : eligible false [46, 104] true false 0o755 = false := by decide     -- hidden
example : eligible true [104, 105] true false 0o755 = false := by decide     -- world-writable directory
example : eligible false [104, 105] true false 0o644 = false := by decide    -- not executable

/-! ### A hook that hangs is killed after its time limit

`runHook` starts the process, waits for it in its own goroutine and, when the timer of `limit`
seconds fires first, calls `Process.Kill()` — SIGKILL, which (an assumption about the kernel)
no process can catch, block or ignore. What the hook does with other signals is irrelevant. -/

/-- What a hook process does on its own. -/
inductive HookProc
  | exitsAfter (d : Nat)                -- terminates by itself after d seconds
  | hangs (ignoresTerm : Bool)          -- never terminates; may ignore SIGTERM / SIGHUP / SIGINT
  deriving Repr, DecidableEq

/-- Seconds after its start at which the process is gone. -/
def goneAfter (limit : Nat) : HookProc → Nat
  | .exitsAfter d => min d limit
  | .hangs _ => limit

theorem hook_gone_within_limit (limit : Nat) (p : HookProc) : goneAfter limit p ≤ limit := by
  cases p <;> simp [goneAfter, Nat.min_le_right]

/-- The time limit does not depend on the hook's signal dispositions (a SIGTERM-based limit would). -/
theorem kill_ignores_signal_disposition (limit : Nat) (a b : Bool) : goneAfter limit (.hangs a) = goneAfter limit (.hangs b) := rfl

end Whawty.Hooks.C19

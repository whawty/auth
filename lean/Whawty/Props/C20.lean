/-
  C20 — The PAM module succeeds only on an explicit OK from the agent.
-/
import Whawty.Lemmas.Pam
import Whawty.Props.C13
namespace Whawty.Pam.C20

/-- The reply check succeeds exactly when the delivered stream is a length prefix `L`
    followed by at least `min L 256 ≥ 2` bytes that begin with "OK". -/
theorem recv_success_iff (evs : List SrvEv) :
    recvVerdict evs = PAM_SUCCESS ↔
      ∃ hi lo rest, stream evs = hi :: lo :: 79 :: 75 :: rest ∧
        2 ≤ min (be16val hi lo) 256 ∧ min (be16val hi lo) 256 ≤ rest.length + 2 := by
  rw [← verdictSpec_eq_success_iff, ← recvVerdictCore_eq_spec, recvVerdict]
  split
  · rw [zeroLenInterrupted_core ‹_›]
    exact ⟨nofun, nofun⟩
  · rfl

/-- PAM_SUCCESS is returned only if the agent's reply begins with "OK". -/
theorem success_only_on_ok (i : Input) (h : (authenticate i).1 = PAM_SUCCESS) :
    ∃ hi lo rest, stream i.server = hi :: lo :: 79 :: 75 :: rest ∧ 2 ≤ min (be16val hi lo) 256 := by
  obtain ⟨hi, lo, rest, a, b, _⟩ := (recv_success_iff i.server).mp (authenticate_success h).2
  exact ⟨hi, lo, rest, a, b⟩

/-- Every reply-handling outcome is one of success / authentication error / unavailable. -/
theorem verdict_range (evs : List SrvEv) :
    recvVerdict evs = PAM_SUCCESS ∨ recvVerdict evs = PAM_AUTH_ERR ∨ recvVerdict evs = PAM_AUTHINFO_UNAVAIL := by
  unfold recvVerdict recvVerdictCore
  grind

/-- Any other server behaviour yields a non-success code: silence or close before the two
    length bytes, a body shorter than announced (short read, timeout, early close), a reply
    not beginning with "OK", an unreachable socket. -/
theorem every_failure_nonsuccess (i : Input)
    (h : ¬ i.connectOk ∨
         (¬ ∃ hi lo rest, stream i.server = hi :: lo :: 79 :: 75 :: rest ∧
            2 ≤ min (be16val hi lo) 256 ∧ min (be16val hi lo) 256 ≤ rest.length + 2)) :
    (authenticate i).1 ≠ PAM_SUCCESS := by
  intro hs
  obtain ⟨hc, hv⟩ := authenticate_success hs
  rcases h with h | h
  · exact h hc
  · exact h ((recv_success_iff i.server).mp hv)

theorem silence_is_unavail (rest : List SrvEv) : recvVerdict (.timeout :: rest) = PAM_AUTHINFO_UNAVAIL :=
  recvVerdict_of_short Nat.zero_lt_two

/-- A signal that interrupts the wait for the reply makes the module give up (non-success). -/
theorem interrupt_is_unavail (rest : List SrvEv) : recvVerdict (.intr :: rest) = PAM_AUTHINFO_UNAVAIL :=
  recvVerdict_of_short Nat.zero_lt_two

/-- … also after part of the reply has arrived: an interrupt or a close before the announced
    body is complete never yields success, whatever follows. (The model has no `errno`: in the
    repaired code a read of 0 bytes is the end of the stream regardless of what the caller's
    errno happened to be — defect D11 was exactly that dependence.) -/
theorem incomplete_body_never_succeeds (hi lo : Byte) (part : Bytes) (e : SrvEv) (rest : List SrvEv)
    (he : e = .intr ∨ e = .eof ∨ e = .timeout) (hl : part.length < min (be16val hi lo) 256) :
    recvVerdict (.data ([hi, lo] ++ part) :: e :: rest) ≠ PAM_SUCCESS := by
  intro hs
  obtain ⟨hi', lo', rest', hst, -, hle⟩ := (recv_success_iff _).mp hs
  have hstream : stream (.data ([hi, lo] ++ part) :: e :: rest) = hi :: lo :: part := by
    rcases he with rfl | rfl | rfl <;> exact List.append_nil _
  cases hstream.symm.trans hst
  simp only [List.length_cons] at hl
  omega

theorem early_close_is_unavail (rest : List SrvEv) : recvVerdict (.eof :: rest) = PAM_AUTHINFO_UNAVAIL :=
  recvVerdict_of_short Nat.zero_lt_two

/-- A signal that interrupts the wait after a ZERO-length announcement: the module gives up (it
    still waits once for the empty body) — non-success either way. -/
theorem zero_length_then_interrupt_is_unavail (rest : List SrvEv) :
    recvVerdict (.data [0, 0] :: .intr :: rest) = PAM_AUTHINFO_UNAVAIL := by
  simp [recvVerdict, zeroLenInterrupted, readN, nextEv, be16val]

/-- The request written to the socket is the well-formed saslauthd request carrying user and
    password (C strings, each clipped to 256 bytes) with empty service and realm. -/
theorem request_wellformed (i : Input) :
    (authenticate i).2 = [] ∨
    ∃ pw, getPassword i = .ok pw ∧
      (Sasl.Request.mk ((cstr i.user).take 256) ((cstr pw).take 256) [] []).encode = some (authenticate i).2 := by
  unfold authenticate
  split
  · left; rfl
  · rename_i pw hp
    split
    · left; rfl
    · right; exact ⟨pw, hp, Sasl.C13.pam_encoder_agrees _ _⟩

/-- Bounded time: the reply is read in at most 3 + 257 select()/read() rounds, each of which
    is bounded by the module's timeout. -/
theorem terminates (evs : List SrvEv) (l : Nat) (hl : l ≤ 256) (rest : List SrvEv)
    (h1 : ∀ b, SrvEv.data b ∈ evs → b ≠ []) (h2 : ∀ b, SrvEv.data b ∈ rest → b ≠ []) :
    readRounds 2 evs + readRounds l rest ≤ 3 + 257 :=
  Nat.add_le_add (readRounds_le 2 evs h1) (Nat.le_trans (readRounds_le l rest h2) (Nat.succ_le_succ hl))

/- Non-vacuity. -/
example : recvVerdict [.data [0], .data [2, 79], .data [75], .eof] = PAM_SUCCESS := by decide
example : recvVerdict [.data [0, 2, 78, 79], .eof] = PAM_AUTH_ERR := by decide
example : recvVerdict [.data [0, 5, 79, 75], .timeout] = PAM_AUTHINFO_UNAVAIL := by decide

end Whawty.Pam.C20

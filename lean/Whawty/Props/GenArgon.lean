/-
  The regenerated tie (argon2id constructor): `Whawty/Gen/Argon.lean` is the statement-by-statement
  translation of `NewArgon2IDHasher` (store/userhash_argon2id.go) written by the translator from
  /repo's CURRENT source on every run. The theorem proves that the constructor accepts exactly the
  parameter sets the model's `Config.argonOk` accepts (time, threads, length ≥ 1 — the domain on
  which `argon2.IDKey` does not panic): `accepted_argon_in_domain` of C18 is thereby a statement
  about what the source's constructor checks now (defect D8 was the absence of these checks).
-/
import Whawty.Gen.Argon
import Whawty.Model.Config
namespace Whawty.Gen.Tie
open Whawty.Config

theorem argonOk_iff (a : ArgonCfg) : argonOk a = true ↔ 1 ≤ a.time ∧ 1 ≤ a.threads ∧ 1 ≤ a.length := by
  simp [argonOk, and_assoc]

/-- The model's verdict as the constructor's result pair (hasher, error). -/
theorem argonOk_view (a : ArgonCfg) :
    (argonOk a, !argonOk a) =
      if 1 ≤ a.time ∧ 1 ≤ a.threads ∧ 1 ≤ a.length then (true, false) else (false, true) := by
  simp only [← argonOk_iff]
  cases argonOk a <;> rfl

/-- The source's constructor on unsigned field values (Go: uint32 / uint8): a hasher and no error
    exactly when the model accepts the set, otherwise no hasher and an error. -/
theorem newArgon2IDHasher_is_source (f) (hf : newArgon2IDHasher = some f) (a : ArgonCfg) :
    f a.time a.memory a.threads a.length = (argonOk a, !argonOk a) := by
  unfold newArgon2IDHasher at hf
  cases hf   -- `none = some f` for a constructor that left the translated subset: nothing is claimed
  all_goals
    rw [argonOk_view]
    grind

/-- About the source's constructor itself: a parameter set it accepts lies in the primitive's domain. -/
theorem source_argon_accepted_in_domain (f) (hf : newArgon2IDHasher = some f) (a : ArgonCfg) (e : Bool)
    (h : f a.time a.memory a.threads a.length = (true, e)) :
    1 ≤ a.time ∧ 1 ≤ a.threads ∧ 1 ≤ a.length ∧ e = false := by
  rw [newArgon2IDHasher_is_source f hf a, argonOk_view] at h
  grind

end Whawty.Gen.Tie

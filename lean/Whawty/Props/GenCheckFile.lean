/-
  The regenerated tie (directory-entry classification): `Whawty/Gen/CheckFile.lean` is the
  statement-by-statement translation of `checkUserFile` (store/store.go) written by the translator
  `harness/cmd/factgen` (translate.go) from /repo's CURRENT source on every run. The theorem below
  proves that it is the model's `Store.checkUserFile` for every directory-entry name (a name
  without `/`). Together with GenGrammar (the regular expression) this ties the grammar of the
  store directory — what `Check`, `List`, `ListFull` accept — to what the source says now.
-/
import Whawty.Gen.CheckFile
import Whawty.Props.GenGrammar
import Whawty.Lemmas.StoreCheck
namespace Whawty.Gen.Tie

theorem pathExtAux_eq (r acc : Bytes) (h : (47 : Byte) ∉ r) :
    pathExtAux r acc = if r.dropWhile (· ≠ 46) = [] then [] else 46 :: ((r.takeWhile (· ≠ 46)).reverse ++ acc) := by
  fun_induction pathExtAux r acc <;> simp_all

/-- `filepath.Ext` on a name without `/` is the model's `extOf`. -/
theorem pathExt_eq (n : Bytes) (h : (47 : Byte) ∉ n) : pathExt n = Store.extOf n := by
  simp [pathExt, Store.extOf, pathExtAux_eq _ [] (mt List.mem_reverse.mp h)]

/-- The test of `strings.HasSuffix`, as `TrimSuffix` and `CutSuffix` make it, is the suffix relation. -/
theorem hasSuffix_iff (s x : Bytes) : (x.length ≤ s.length ∧ s.drop (s.length - x.length) = x) ↔ x <:+ s :=
  ⟨fun h => h.2 ▸ List.drop_suffix _ _, fun h => ⟨h.length_le, (List.suffix_iff_eq_drop.mp h).symm⟩⟩

theorem suffix_iff_ext (n e : Bytes) (he : e = Store.adminExt ∨ e = Store.userExt) :
    e <:+ n ↔ Store.extOf n = e := by
  refine ⟨fun ⟨p, hp⟩ => ?_, fun h => h ▸ Store.extOf_suffix n⟩
  subst hp
  rcases he with rfl | rfl
  · exact Store.extOf_fileName p true
  · exact Store.extOf_fileName p false

theorem trimSuffix_ext (n : Bytes) (h : Store.extOf n ≠ []) :
    trimSuffix n (Store.extOf n) = n.take (n.length - (Store.extOf n).length) := by
  unfold trimSuffix
  rw [if_pos ((hasSuffix_iff _ _).mpr (Store.extOf_suffix n))]

/-- Go's `(valid, user, isAdmin, err)` for the model's outcome. -/
def cfView : Option (Bool × Bytes × Bool) → Bool × Bytes × Bool × Bool
  | none => (false, [], false, true)
  | some (v, u, a) => (v, u, a, false)

theorem userNameReMatch_eq (u : Bytes) : userNameReMatch u = Store.validName u := by
  rw [validName_is_source_grammar]; rfl

theorem cutSuffix_ext (n e : Bytes) (he : e = Store.adminExt ∨ e = Store.userExt) :
    cutSuffix n e = if Store.extOf n = e then (n.take (n.length - e.length), true) else (n, false) := by
  simp only [cutSuffix, hasSuffix_iff, suffix_iff_ext n e he]

theorem trimSuffix_of_ext (n e : Bytes) (he : e = Store.adminExt ∨ e = Store.userExt) :
    trimSuffix n e = if Store.extOf n = e then n.take (n.length - e.length) else n := by
  simp only [trimSuffix, hasSuffix_iff, suffix_iff_ext n e he]

/-- The model's classification as the source computes it: by the extension. -/
theorem cfView_checkUserFile (n : Bytes) :
    cfView (Store.checkUserFile n) =
      if Store.extOf n = Store.adminExt then
        (Store.validName (n.take (n.length - Store.adminExt.length)), n.take (n.length - Store.adminExt.length), true, false)
      else if Store.extOf n = Store.userExt then
        (Store.validName (n.take (n.length - Store.userExt.length)), n.take (n.length - Store.userExt.length), false, false)
      else (false, [], false, true) := by
  simp only [Store.checkUserFile, apply_ite cfView]
  rfl

/-- The source's `checkUserFile` is the model's on every directory-entry name (holds unchanged for
    the `switch` form of the function, for an `if`/`else if` chain on `filepath.Ext` with
    `valid = userNameRe.MatchString(user)`, benign/M-4, and for the `strings.CutSuffix` form of
    benign/B3-3). -/
theorem checkUserFile_is_source (n : Bytes) (h : (47 : Byte) ∉ n) :
    checkUserFile.map (· n) = some (cfView (Store.checkUserFile n)) := by
  unfold checkUserFile
  simp only [Option.map_some, Option.some.injEq]
  have ha : ([46, 97, 100, 109, 105, 110] : Bytes) = Store.adminExt := rfl
  have hu : ([46, 117, 115, 101, 114] : Bytes) = Store.userExt := rfl
  -- rewrite rules for `CutSuffix` as well as `TrimSuffix`: the source may use either (benign/B3-3, M-4);
  -- the ones it does not use are reported as unused `simp` arguments
  simp only [ha, hu, pathExt_eq n h, userNameReMatch_eq, cfView_checkUserFile,
    cutSuffix_ext n _ (.inl rfl), cutSuffix_ext n _ (.inr rfl), trimSuffix_of_ext n _ (.inl rfl), trimSuffix_of_ext n _ (.inr rfl)]
  have hd : Store.userExt ≠ Store.adminExt := by decide
  generalize Store.extOf n = x
  generalize n.take (n.length - Store.adminExt.length) = ua
  generalize n.take (n.length - Store.userExt.length) = uu
  generalize Store.adminExt = ea at *
  generalize Store.userExt = eu at *
  grind

theorem source_checkUserFile_eq {n : Bytes} (h : (47 : Byte) ∉ n) {f : Bytes → Bool × Bytes × Bool × Bool}
    (hf : checkUserFile = some f) : f n = cfView (Store.checkUserFile n) := by
  have hs := checkUserFile_is_source n h
  rwa [hf, Option.map_some, Option.some.injEq] at hs

/-- **What the source's `checkUserFile` accepts**, stated about the translated function itself: for
    a directory-entry name `n` (no `/`), it reports a valid entry exactly when `n` is
    `<u>.user` or `<u>.admin` for a name `u` of the user-name grammar — and then it returns that `u`
    and whether the extension was `.admin`; the error flag is set exactly when the extension is
    neither. -/
theorem source_checkUserFile_exact (n : Bytes) (h : (47 : Byte) ∉ n)
    (f : Bytes → Bool × Bytes × Bool × Bool) (hf : checkUserFile = some f) (u : Bytes) (a : Bool) :
    f n = (true, u, a, false) ↔ (Store.validName u = true ∧ n = Store.fileName u a) := by
  rw [source_checkUserFile_eq h hf, ← and_congr_left' eq_comm, ← Store.checkUserFile_eq_some]
  cases Store.checkUserFile n with
  | none => simp [cfView]
  | some r => simp [cfView, Prod.ext_iff]

/-- … and it signals an error exactly for names with neither extension. -/
theorem source_checkUserFile_error (n : Bytes) (h : (47 : Byte) ∉ n)
    (f : Bytes → Bool × Bytes × Bool × Bool) (hf : checkUserFile = some f) :
    (f n).2.2.2 = true ↔ (Store.extOf n ≠ Store.adminExt ∧ Store.extOf n ≠ Store.userExt) := by
  rw [source_checkUserFile_eq h hf, cfView_checkUserFile]
  split
  · simp [*]
  · split <;> simp [*]

/- Non-vacuity: the translation exists and classifies a real entry. -/
example : checkUserFile.map (· [97, 46, 117, 115, 101, 114]) = some (true, [97], false, false) := by decide +kernel

end Whawty.Gen.Tie

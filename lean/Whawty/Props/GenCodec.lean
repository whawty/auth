/-
  The regenerated tie (codec limits): one of the four modules over `Whawty/Gen/Facts.lean`; what these
  theorems are for, and why the facts are tied in four modules, is said at the head of Props/GenGrammar.lean.
-/
import Whawty.Gen.Facts
import Whawty.Model.Sasl
namespace Whawty.Gen.Tie

/-- The part-length limit of the codec, in the Go package and in the PAM module; the module's
    reply buffer is longer than the clip (it stays NUL-terminated). -/
theorem codec_limits :
    saslMaxRequestLength = some Sasl.maxLen ∧ pamMaxPartLen = some Sasl.maxLen ∧
    (∃ k, pamResponseSlack = some k ∧ 1 ≤ k) :=
  ⟨rfl, rfl, _, rfl, by decide⟩

end Whawty.Gen.Tie

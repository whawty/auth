/-
  The regenerated tie (the four codec methods): `Whawty/Gen/Codec.lean` holds the statement-by-
  statement translations of `(*Request).Encode`, `(*Request).Decode`, `(*Response).Encode` and
  `(*Response).Decode` (sasl/sasl_encoding.go) that the translator `harness/cmd/factgen` writes from
  /repo's CURRENT source on every run. The loops over the parts (`encodeLengthEncodedStrings`,
  `decodeLengthEncodedStrings` with its `bufio.Scanner`) are NOT translated: they are the parameters
  `enc` (the error result of writing these parts) and `dec` (`none` = the part decoder failed,
  `some ps` = it filled the slots with `ps`), modelled by `Sasl.encodeParts` / `Sasl.decodeScan`
  and tied to the code by the split function's own translation (GenScan) and the differential run.

  The ties are stated for whatever function the translator produced (`… = some f → f = …`): a
  method that a maintainer rewrites with constructs outside the translated subset (a loop, a helper
  closure) is `none`, nothing is claimed about it any more, the check says so in its evidence
  (`ties_not_established`) and the property rests on the differential run alone for that method.
  A method that IS translated and differs from the model breaks this module (a broken proof
  obligation). How the ties are proved without following the shape of the translated body is said
  at the head of Props/GenScan.lean.

  The `*_is_source` theorems hold for EVERY `enc` / `dec`: what the methods do around the loops —
  the per-field limits, which parts are handed to the encoder and in which order, the field checks
  after decoding, the response text grammar — is what the source says now. The `source_*`
  corollaries instantiate them with the model's loops: the translated methods then compute the
  model's `Request.encode`, `Request.decodeChunked`, `Response.encode`, `Response.decodeChunked`,
  which is what the theorems of C13 / C05 / C04 are about.
-/
import Whawty.Gen.Codec
import Whawty.Lemmas.Sasl
namespace Whawty.Gen.Tie
open Whawty.Sasl

/-- `Request.Encode`: refused (an error, the encoder is never called) when a field is longer than
    `MaxRequestLength`; otherwise exactly the four fields, in the order login, password, service,
    realm, go to the part encoder and its result is the method's. -/
theorem requestEncode_is_source (f) (hf : requestEncode = some f) :
    f = (fun enc l p s r =>
      if l.length > maxLen ∨ p.length > maxLen ∨ s.length > maxLen ∨ r.length > maxLen then true
      else enc [l, p, s, r]) := by
  unfold requestEncode at hf
  cases hf   -- `none = some f` for a method that left the translated subset: nothing is claimed
  all_goals
    funext enc l p s r
    have : maxLen = 256 := rfl
    grind

/-- With the model's part encoder: the source's `Request.Encode` fails exactly when the model's does. -/
theorem source_requestEncode_model (f) (hf : requestEncode = some f) (r : Request) :
    f (fun ps => (encodeParts ps).isNone) r.login r.password r.service r.realm = (Request.encode r).isNone := by
  rw [requestEncode_is_source f hf]
  simp only [Request.encode]
  grind

/-- `Request.Decode`: an error of the part decoder is the method's error and the receiver keeps its
    fields; four decoded parts are subjected to exactly the model's field checks (`Request.ofParts`:
    empty login / empty password refused, receiver untouched) and otherwise become the receiver's
    fields in the order login, password, service, realm. -/
theorem requestDecode_is_source (f) (hf : requestDecode = some f) :
    f = (fun dec l0 p0 s0 r0 =>
      match dec 4 with
      | none => (true, l0, p0, s0, r0)
      | some ps =>
        match Request.ofParts [ps.getD 0 [], ps.getD 1 [], ps.getD 2 [], ps.getD 3 []] with
        | none => (true, l0, p0, s0, r0)
        | some q => (false, q.login, q.password, q.service, q.realm)) := by
  unfold requestDecode at hf
  cases hf
  all_goals
    funext dec l0 p0 s0 r0
    cases dec 4 with
    | none => rfl
    | some ps =>
      simp only [Request.ofParts]
      generalize ps.getD 0 [] = a
      generalize ps.getD 1 [] = b
      grind [List.isEmpty_iff_length_eq_zero, List.length_eq_zero_iff]

/-- `Response.Encode`: the single part handed to the encoder is the model's `Response.text`. -/
theorem responseEncode_is_source (f) (hf : responseEncode = some f) :
    f = (fun enc b m => enc [Response.text ⟨b, m⟩]) := by
  unfold responseEncode at hf
  cases hf
  all_goals
    funext enc b m
    cases b <;> cases m <;> simp [Response.text, okB, noB]

/-- With the model's part encoder: the source's `Response.Encode` fails exactly when the model's does. -/
theorem source_responseEncode_model (f) (hf : responseEncode = some f) (r : Response) :
    f (fun ps => (encodeParts ps).isNone) r.result r.message = (Response.encode r).isNone := by
  rw [responseEncode_is_source f hf]
  rfl

/-- The model's response grammar seen as the result triple of `Response.Decode` (error, Result,
    Message) for a receiver whose `Message` was `m0`, as nested conditions. -/
theorem ofText_view (t m0 : Bytes) :
    (match Response.ofText t with
     | none => (true, false, m0)
     | some q => (false, q.result, if t.length > 3 then q.message else m0)) =
    if t.length < 2 then (true, false, m0)
    else if t.take 2 = okB then (false, true, if t.length > 3 then t.drop 3 else m0)
    else if t.take 2 = noB then (false, false, if t.length > 3 then t.drop 3 else m0)
    else (true, false, m0) := by
  unfold Response.ofText
  grind

/-- `Response.Decode` on a receiver whose fields were `(b0, m0)`: `Result` is reset first; an error
    of the part decoder or a text outside the grammar (`Response.ofText`: shorter than two bytes,
    not starting with OK / NO) is an error with `Result = false`; otherwise the verdict is the
    model's, and the message is the model's when the text is longer than three bytes — a shorter
    text leaves the receiver's `Message` as it was (`m0`; the model's `ofText` is for `m0 = ""`). -/
theorem responseDecode_is_source (f) (hf : responseDecode = some f) :
    f = (fun dec (_b0 : Bool) m0 =>
      match dec 1 with
      | none => (true, false, m0)
      | some ps =>
        match Response.ofText (ps.getD 0 []) with
        | none => (true, false, m0)
        | some q => (false, q.result, if (ps.getD 0 []).length > 3 then q.message else m0)) := by
  unfold responseDecode at hf
  cases hf
  all_goals
    funext dec b0 m0
    cases dec 1 with
    | none => rfl
    | some ps =>
      simp only [ofText_view, slice, Int.reduceToNat, List.drop_zero, Nat.sub_zero, okB, noB]
      grind

/-- About the source's `Response.Decode` itself: it reports success with `Result = true` only for a
    text that starts with the two bytes `OK` — whatever the part decoder delivers. -/
theorem source_response_positive_only_on_OK (f) (hf : responseDecode = some f) (dec) (b0 : Bool) (m0 m : Bytes)
    (h : f dec b0 m0 = (false, true, m)) :
    ∃ ps, dec 1 = some ps ∧ (ps.getD 0 []).take 2 = okB := by
  rw [responseDecode_is_source f hf] at h
  cases hd : dec 1 with
  | none => simp [hd] at h
  | some ps =>
    refine ⟨ps, rfl, ?_⟩
    simp only [hd, ofText_view] at h
    grind

/-- About the source's `Request.Decode` itself: success means four parts were decoded, login and
    password are non-empty, and the receiver holds exactly those parts. -/
theorem source_request_decode_fields (f) (hf : requestDecode = some f) (dec) (l0 p0 s0 r0 l p s r : Bytes)
    (h : f dec l0 p0 s0 r0 = (false, l, p, s, r)) :
    ∃ ps, dec 4 = some ps ∧ l = ps.getD 0 [] ∧ p = ps.getD 1 [] ∧ s = ps.getD 2 [] ∧ r = ps.getD 3 [] ∧
      l ≠ [] ∧ p ≠ [] := by
  rw [requestDecode_is_source f hf] at h
  cases hd : dec 4 with
  | none => simp [hd] at h
  | some ps =>
    refine ⟨ps, rfl, ?_⟩
    cases hq : Request.ofParts [ps.getD 0 [], ps.getD 1 [], ps.getD 2 [], ps.getD 3 []] with
    | none => simp only [hd, hq, Prod.mk.injEq, Bool.true_eq_false, false_and] at h
    | some q =>
      obtain ⟨hps, hl, hp⟩ := Request.ofParts_eq_some_iff.mp hq
      simp only [hd, hq, Prod.mk.injEq, true_and] at h
      obtain ⟨rfl, rfl, rfl, rfl⟩ := h
      simp only [List.cons.injEq, and_true] at hps
      exact ⟨hps.1.symm, hps.2.1.symm, hps.2.2.1.symm, hps.2.2.2.symm, hl, hp⟩

/-- The scanner loop delivers exactly as many parts as it was asked for. -/
theorem decodeScan_length (k : Nat) (buf : Bytes) (cs : List Bytes) (e : Nat) :
    ∀ ps n, decodeScan k buf cs e = some (ps, n) → ps.length = k := by
  intro ps n h
  rw [decodeScan_eq_decodePure _ _ _ _ (.inr (by rw [h]; rfl))] at h
  exact (decodePure_eq_some_iff.mp h).1

/-- With the model's scanner loop as the part decoder (any fragmentation `cs` of the stream): the
    source's `Request.Decode` computes the model's `Request.decodeChunked`. -/
theorem source_requestDecode_model (f) (hf : requestDecode = some f) (cs : List Bytes) (l0 p0 s0 r0 : Bytes) :
    f (fun n => (decodeScan n [] cs 0).map (·.1)) l0 p0 s0 r0 =
      match Request.decodeChunked cs with
      | none => (true, l0, p0, s0, r0)
      | some (q, _) => (false, q.login, q.password, q.service, q.realm) := by
  rw [requestDecode_is_source f hf]
  simp only [Request.decodeChunked]
  cases hd : decodeScan 4 [] cs 0 with
  | none => simp
  | some r =>
    obtain ⟨ps, n⟩ := r
    have hl := decodeScan_length 4 [] cs 0 ps n hd
    match ps, hl with
    | [a, b, c, d], _ =>
      simp only [Option.map_some, List.getD_cons_zero, List.getD_cons_succ]
      cases Request.ofParts [a, b, c, d] <;> rfl

/-- … and its `Response.Decode`, on a fresh receiver (`Message` empty, as in `sasl.Client.Auth` and in the
    PAM-side reading of the reply), the model's `Response.decodeChunked`. -/
theorem source_responseDecode_model (f) (hf : responseDecode = some f) (cs : List Bytes) (b0 : Bool) :
    f (fun n => (decodeScan n [] cs 0).map (·.1)) b0 [] =
      match Response.decodeChunked cs with
      | none => (true, false, [])
      | some q => (false, q.result, q.message) := by
  rw [responseDecode_is_source f hf]
  simp only [Response.decodeChunked]
  cases hd : decodeScan 1 [] cs 0 with
  | none => simp
  | some r =>
    obtain ⟨ps, n⟩ := r
    have hl := decodeScan_length 1 [] cs 0 ps n hd
    match ps, hl with
    | [t], _ =>
      simp only [Option.map_some, List.getD_cons_zero]
      cases h : Response.ofText t with
      | none => rfl
      | some q =>
        -- a text of at most three bytes carries the empty message, which is what the receiver held
        simp only [Response.ofText_message h]
        split
        · rfl
        · rw [List.drop_eq_nil_of_le (by omega)]

end Whawty.Gen.Tie

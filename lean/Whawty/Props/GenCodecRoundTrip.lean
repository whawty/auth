/-
  End-to-end statements about the SOURCE's codec methods (the functions the translator produced from
  /repo's current sasl/sasl_encoding.go), obtained by composing the regenerated ties
  (Props/GenCodecFn.lean, Props/GenScan.lean) with the theorems of C13 about the model: what the
  source's `Request.Encode` writes, the source's `Request.Decode` reads back — for every request
  within the limits, every way the stream is fragmented into reads by a reader that makes progress,
  and whatever follows the message on the stream; likewise for responses. The loops over the parts
  are the model's (`encodeParts`, `decodeScan` over the source's own split function, `scan_is_source`).
-/
import Whawty.Props.GenCodecFn
import Whawty.Props.C13
namespace Whawty.Gen.Tie
open Whawty.Sasl Whawty.Sasl.C13

/-- Source encoder then source decoder, any fragmentation: the receiver ends up with exactly the
    fields that were encoded, whatever it held before; the encoder reports no error. -/
theorem source_request_roundtrip (fe) (hfe : requestEncode = some fe) (fd) (hfd : requestDecode = some fd)
    (r : Request) (hf : fieldsOk r) (hl : r.login ≠ []) (hp : r.password ≠ [])
    (enc rest : Bytes) (henc : r.encode = some enc)
    (cs : List Bytes) (hcs : cs.flatten = enc ++ rest) (hst : stallFree 0 cs = true)
    (l0 p0 s0 r0 : Bytes) :
    fe (fun ps => (encodeParts ps).isNone) r.login r.password r.service r.realm = false ∧
    fd (fun n => (decodeScan n [] cs 0).map (·.1)) l0 p0 s0 r0 =
      (false, r.login, r.password, r.service, r.realm) := by
  constructor
  · rw [source_requestEncode_model fe hfe r, henc]; rfl
  · rw [source_requestDecode_model fd hfd cs, fragment_independent_request cs hst, hcs,
      decode_encode_request r enc rest hf hl hp henc]

/-- The same for responses read into a fresh receiver: verdict and message come back unchanged. -/
theorem source_response_roundtrip (fe) (hfe : responseEncode = some fe) (fd) (hfd : responseDecode = some fd)
    (r : Response) (h : r.text.length ≤ maxLen) (enc rest : Bytes) (henc : r.encode = some enc)
    (cs : List Bytes) (hcs : cs.flatten = enc ++ rest) (hst : stallFree 0 cs = true) (b0 : Bool) :
    fe (fun ps => (encodeParts ps).isNone) r.result r.message = false ∧
    fd (fun n => (decodeScan n [] cs 0).map (·.1)) b0 [] = (false, r.result, r.message) := by
  constructor
  · rw [source_responseEncode_model fe hfe r, henc]; rfl
  · rw [source_responseDecode_model fd hfd cs b0, fragment_independent_response cs hst, hcs,
      decode_encode_response r enc rest h henc]

/-- An over-limit field: the source's encoder reports an error and never reaches the part encoder
    (stated with a part encoder that would succeed on anything). -/
theorem source_request_overlimit_refused (fe) (hfe : requestEncode = some fe) (r : Request) (h : ¬ fieldsOk r) :
    fe (fun _ => false) r.login r.password r.service r.realm = true := by
  rw [requestEncode_is_source fe hfe]
  unfold fieldsOk at h
  exact if_pos (by omega)

/-- Non-vacuity: a concrete request meets the hypotheses of the round trip (limits, non-empty login
    and password, an encoding exists). -/
example : ∃ enc, (Request.mk [97] [98] [] []).encode = some enc ∧ fieldsOk ⟨[97], [98], [], []⟩ :=
  ⟨_, rfl, by simp [fieldsOk, maxLen]⟩

end Whawty.Gen.Tie

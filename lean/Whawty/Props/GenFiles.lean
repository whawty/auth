/-
  The regenerated tie (file-name constants): one of the four modules over `Whawty/Gen/Facts.lean`; what these
  theorems are for, and why the facts are tied in four modules, is said at the head of Props/GenGrammar.lean.
-/
import Whawty.Gen.Facts
import Whawty.Model.Store
namespace Whawty.Gen.Tie

/-- File-name constants of store/store.go. -/
theorem file_name_constants :
    adminExt = some Store.adminExt ∧ userExt = some Store.userExt ∧ tmpDir = some Store.tmpName :=
  ⟨rfl, rfl, rfl⟩

end Whawty.Gen.Tie

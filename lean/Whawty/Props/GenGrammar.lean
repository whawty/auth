/-
  The regenerated tie (user-name grammar): `Whawty/Gen/Facts.lean` is written on every run by the translator
  `harness/cmd/factgen` from /repo's CURRENT source. The theorems below connect what the source
  says now with the constants the hand-written model uses; a source edit that changes them breaks
  this module (a broken proof obligation: the check then searches for a failing input with the
  ordinary suites). The facts of `Facts.lean` are tied in four modules (GenGrammar, GenFiles,
  GenCodec, GenSalt) so that an edit breaks only the properties that depend on the fact in question;
  the functions translated statement by statement have their own (GenScan, GenCheckFile, …).
-/
import Whawty.Gen.Facts
import Whawty.Model.Store
namespace Whawty.Gen.Tie

/-- The translator understood the regular expression: `^[first-class][rest-class]*$`. -/
theorem grammar_shape : nameReShape = "^[first][rest]*$" := rfl

/-- The translator writes a character class as the increasing list of its bytes. The two classes of
    the source's regular expression are exactly the model's (256 evaluations of the model's
    predicate each; comparing the lists is much cheaper than 256 look-ups in them). -/
theorem first_class_table : nameFirstClass = (List.range 256).filter fun n => Store.isAlnum (UInt8.ofNat n) := by
  decide +kernel

theorem rest_class_table : nameRestClass = (List.range 256).filter fun n => Store.isNameChar (UInt8.ofNat n) := by
  decide +kernel

theorem contains_class (p : Byte → Bool) (c : Byte) :
    ((List.range 256).filter fun n => p (UInt8.ofNat n)).contains c.toNat = p c := by
  rw [Bool.eq_iff_iff, List.contains_iff_mem]
  simp [c.toNat_lt]

/-- **The model's `validName` is the language of the regular expression in the source**: first
    byte in the first class, every further byte in the second class, nothing else (Go's `$`
    without the `m` flag is the end of the text). -/
theorem validName_is_source_grammar (u : Bytes) :
    Store.validName u =
      (match u with
       | [] => false
       | c :: r => nameFirstClass.contains c.toNat && r.all fun x => nameRestClass.contains x.toNat) := by
  simp only [first_class_table, rest_class_table, contains_class]
  cases u <;> rfl

end Whawty.Gen.Tie

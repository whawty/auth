/-
  The regenerated tie (salt / digest strings): `Whawty/Gen/HashStr.lean` holds the statement-by-
  statement translations of `argon2IDDecodeBase64`, `scryptAuthDecodeBase64` and of the two
  `IsValid` methods (store/userhash_argon2id.go, store/userhash_scryptauth.go), written by the
  translator from /repo's CURRENT source on every run. The theorems prove that, for every string, they
  compute the model's `Rec.decodeSaltHash` and `Rec.isValid`: the functions that `auth_iff_record` (C02),
  the write-then-authenticate theorems (C01) and `check_exact` (C16) are stated over. They are stated
  for whatever the translator produced: a function rewritten outside the translated subset is `none`
  and nothing is claimed about it (see GenCodecFn).
  (The source returns the pair in the order digest, salt although the results are NAMED salt, hash;
  both callers agree with that order: the tie makes this explicit.)
-/
import Whawty.Gen.HashStr
import Whawty.Lemmas.Record
namespace Whawty.Gen.Tie
open Whawty.Rec

/-- `strings.Split` by the model's `cut`: without a separator the string itself; otherwise the piece
    before the first separator, then the split of the rest. -/
theorem splitByte_eq (c : Byte) (s : Bytes) :
    splitByte c s = (cut c s).elim [s] fun r => r.1 :: splitByte c r.2 := by
  induction s with
  | nil => rfl
  | cons x xs ih =>
    rw [splitByte, cut]
    split
    · rfl
    · rw [ih]
      cases cut c xs <;> rfl

theorem splitByte_cut (c : Byte) (s : Bytes) :
    match cut c s with
    | none => splitByte c s = [s]
    | some (a, b) => splitByte c s = a :: splitByte c b := by
  rw [splitByte_eq]
  cases cut c s <;> rfl

theorem splitByte_ne_nil (c : Byte) (s : Bytes) : splitByte c s ≠ [] := by
  rw [splitByte_eq]
  cases cut c s <;> simp

/-- Exactly two pieces ⇔ the model's `split2` succeeds, and then they are its two halves. -/
theorem split_view (s : Bytes) :
    match split2 s with
    | none => (splitByte colon s).length ≠ 2
    | some (a, b) => splitByte colon s = [a, b] := by
  unfold split2
  rw [splitByte_eq]
  cases cut colon s with
  | none => simp
  | some r =>
    rw [Option.elim_some, splitByte_eq]
    cases hc : cut colon r.2 with
    | none => simp [cut_eq_none_iff.mp hc]
    | some q =>
      -- a second separator: a third piece follows
      have hb : colon ∈ r.2 := by simp [(cut_eq_some_iff.mp hc).1]
      simp [hb, splitByte_ne_nil]

/-- The model's decoding seen through Go's result triple of the SOURCE's functions: the digest
    first, then the salt (the named results notwithstanding), `nil, nil, err` on any failure. -/
def decodeView (hashStr : Bytes) : Bytes × Bytes × Bool :=
  match decodeSaltHash hashStr with
  | none => ([], [], true)
  | some (salt, hash) => (hash, salt, false)

/-- The model's decoding as the source computes it: split at the colons, exactly two pieces, both
    base64. -/
theorem decodeView_eq (s : Bytes) :
    decodeView s =
      if (stringsSplit s [58]).length ≠ 2 then ([], [], true)
      else if (b64urlDecode ((stringsSplit s [58]).getD 0 [])).2 = true ∨
          (b64urlDecode ((stringsSplit s [58]).getD 1 [])).2 = true then ([], [], true)
      else ((b64urlDecode ((stringsSplit s [58]).getD 1 [])).1, (b64urlDecode ((stringsSplit s [58]).getD 0 [])).1, false) := by
  have hv := split_view s
  simp only [stringsSplit, decodeView, decodeSaltHash, show (58 : Byte) = colon from rfl]
  cases h2 : split2 s with
  | none => simp only [h2] at hv; simp [hv]
  | some r =>
    simp only [h2] at hv
    simp only [hv, List.length_cons, List.length_nil, List.getD_cons_zero, List.getD_cons_succ, b64urlDecode]
    cases B64.decode r.1 <;> cases B64.decode r.2 <;> simp

/-- The source's `argon2IDDecodeBase64` is the model's `decodeSaltHash`. -/
theorem argonDecode_is_source (g) (hg : argonDecodeBase64 = some g) : g = decodeView := by
  unfold argonDecodeBase64 at hg
  cases hg   -- `none = some g` for a function that left the translated subset: nothing is claimed
  all_goals
    funext s
    simp only [decodeView_eq]
    generalize stringsSplit s [58] = parts
    generalize b64urlDecode (parts.getD 0 []) = d0
    generalize b64urlDecode (parts.getD 1 []) = d1
    grind

/-- The source's `scryptAuthDecodeBase64` is the model's `decodeSaltHash`. -/
theorem scryptDecode_is_source (g) (hg : scryptDecodeBase64 = some g) : g = decodeView := by
  unfold scryptDecodeBase64 at hg
  cases hg
  all_goals
    funext s
    simp only [decodeView_eq]
    generalize stringsSplit s [58] = parts
    generalize b64urlDecode (parts.getD 0 []) = d0
    generalize b64urlDecode (parts.getD 1 []) = d1
    grind

/-- The model's `isValid` on the source's result triple, as (result, error): no decoding error and
    both byte strings non-empty. -/
theorem isValid_view (s : Bytes) :
    (isValid s, !isValid s) =
      if (decodeView s).2.2 = true then (false, true)
      else if (decodeView s).1.length = 0 ∨ (decodeView s).2.1.length = 0 then (false, true)
      else (true, false) := by
  cases h : decodeSaltHash s with
  | none => simp [isValid, decodeView, h]
  | some r =>
    obtain ⟨salt, hash⟩ := r
    cases salt <;> cases hash <;> simp [isValid, decodeView, h]

/-- `IsValid` composed with the source's own decoding is the model's `isValid` (result, error). -/
theorem argonIsValid_is_source (f) (hf : argonIsValid = some f) (s : Bytes) :
    f decodeView s = (isValid s, !isValid s) := by
  unfold argonIsValid at hf
  cases hf
  all_goals
    simp only [isValid_view]
    generalize decodeView s = v
    grind

theorem scryptIsValid_is_source (f) (hf : scryptIsValid = some f) (s : Bytes) :
    f decodeView s = (isValid s, !isValid s) := by
  unfold scryptIsValid at hf
  cases hf
  all_goals
    simp only [isValid_view]
    generalize decodeView s = v
    grind

/-- About the source's functions themselves: a string `IsValid` accepts has exactly one colon and
    both halves decode to non-empty byte strings. -/
theorem source_isValid_accepts (f g) (hf : argonIsValid = some f) (hg : argonDecodeBase64 = some g) (s : Bytes) (e : Bool)
    (h : f g s = (true, e)) :
    ∃ a b salt hash, split2 s = some (a, b) ∧ B64.decode a = some salt ∧ B64.decode b = some hash ∧
      salt ≠ [] ∧ hash ≠ [] ∧ e = false := by
  obtain rfl := argonDecode_is_source g hg
  rw [argonIsValid_is_source f hf s, Prod.mk.injEq] at h
  obtain ⟨hv, he⟩ := h
  rw [hv] at he
  cases h2 : split2 s with
  | none => simp [isValid, decodeSaltHash, h2] at hv
  | some r =>
    -- of the four outcomes of decoding the two halves only the one where both succeed is valid
    cases ha : B64.decode r.1 <;> cases hb : B64.decode r.2 <;>
      simp [isValid, decodeSaltHash, h2, ha, hb] at hv
    exact ⟨r.1, r.2, _, _, rfl, ha, hb, hv.1, hv.2, he.symm⟩

end Whawty.Gen.Tie

/-
  The regenerated tie (policy condition parser): `Whawty/Gen/PolicyCond.lean` is the statement-by-
  statement translation of `newZXCVBNPolicy` (cmd/whawty-auth/policy.go) written by the translator from
  /repo's CURRENT source on every run (the three condition functions are the enumeration 1 = score,
  2 = entropy, 3 = time; 0 = none). The theorem proves that the source's parser accepts exactly the
  strings the model's `Policy.parseCondition` accepts, with the same kind and threshold:
  `condition_parser_exact` and `store_change_implies_policy` (C17) are thereby about the condition the
  source parses now. Optional tie (see GenCodecFn): a parser rewritten outside the translated subset
  is `none` and nothing is claimed.
-/
import Whawty.Gen.PolicyCond
import Whawty.Props.C17
namespace Whawty.Gen.Tie
open Whawty.Policy

/-- The enumeration the translator uses for the three condition functions. -/
def kindCode : Kind → Int
  | .score => 1
  | .entropy => 2
  | .time => 3

/-- The source's condition parser is the model's: an error exactly when the model refuses the string;
    otherwise the model's threshold and the function for the model's kind. -/
theorem newZXCVBNPolicy_is_source (f) (hf : newZXCVBNPolicy = some f) (s : Bytes) :
    (f s).1 = (parseCondition s).isNone ∧
    ∀ c, parseCondition s = some c → f s = (false, kindCode c.kind, (c.threshold : Int)) := by
  unfold newZXCVBNPolicy at hf
  cases hf   -- `none = some f` for a parser that left the translated subset: nothing is claimed
  all_goals
    unfold parseCondition stringsFields
    -- three fields or not: the cases are the model's, whatever the shape of the source's tests;
    -- what is left in each are two decision trees over the same tests
    split
    next k op t hs =>
      simp only [hs, List.length_cons, List.length_nil, List.getD_cons_zero, List.getD_cons_succ, parseUint,
        geB, scoreB, entropyB, timeB, decide_eq_true_eq]
      grind [kindCode]
    next hs =>
      -- not three fields: whatever the source's length test looks like, its true branch is the error return
      -- and its false branch contradicts the length (linear arithmetic)
      have hlen : (fields s).length ≠ 3 := fun h => by
        match fields s, h, hs with
        | [k, op, t], _, hs => exact hs k op t rfl
      grind

/-- About the source's parser itself: what it accepts has exactly three blank-separated fields, the
    second `>=`, the third a decimal 64-bit number, the first one of the three names — and a score
    threshold above 4 is refused. -/
theorem source_condition_accepted (f) (hf : newZXCVBNPolicy = some f) (s : Bytes) (k thr : Int)
    (h : f s = (false, k, thr)) :
    ∃ c, parseCondition s = some c ∧ k = kindCode c.kind ∧ thr = c.threshold ∧
      (c.kind = .score → c.threshold ≤ 4) := by
  have ⟨h1, h2⟩ := newZXCVBNPolicy_is_source f hf s
  cases hc : parseCondition s with
  | none => simp [hc, h] at h1
  | some c =>
    have h3 := (C17.condition_parser_exact s c).mp hc
    grind

/-- `NewPasswordPolicy`: no policy for the empty type, the zxcvbn parser's own results for `zxcvbn`
    (for EVERY behaviour `zx` of that parser), an error for any other type. -/
theorem newPasswordPolicy_is_source (f) (hf : newPasswordPolicy = some f) (zx : Bytes → Bool × Bool) (ty cond : Bytes) :
    f zx ty cond = if ty = [] then (true, false) else if ty = zxcvbnB then zx cond else (false, true) := by
  unfold newPasswordPolicy at hf
  cases hf
  all_goals
    -- `len(s) == 0` is another way to write `s == ""`
    grind [zxcvbnB, List.length_eq_zero_iff]

/-- With the translated condition parser's verdict as `zx`: the source's constructor succeeds exactly
    when the model's `newPolicy` does (`bad_policy_stops_agent` of C17 is about this function). -/
theorem source_newPolicy_model (f) (hf : newPasswordPolicy = some f) (ty cond : Bytes) :
    f (fun c => ((parseCondition c).isSome, (parseCondition c).isNone)) ty cond =
      ((newPolicy ty cond).isSome, (newPolicy ty cond).isNone) := by
  rw [newPasswordPolicy_is_source f hf]
  unfold newPolicy
  grind [zxcvbnB]

end Whawty.Gen.Tie

/-
  The regenerated tie (argon2id salt size): one of the four modules over `Whawty/Gen/Facts.lean`; what these
  theorems are for, and why the facts are tied in four modules, is said at the head of Props/GenGrammar.lean.
-/
import Whawty.Gen.Facts
namespace Whawty.Gen.Tie

/-- The salt size of argon2id records (the schema's 16 bytes). -/
theorem argon2_salt_size : argon2SaltLen = some 16 := rfl

end Whawty.Gen.Tie

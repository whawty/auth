/-
  The regenerated tie (split function of the codec): `Whawty/Gen/Scan.lean` is the statement-by-
  statement translation of `scanLengthEncodedString` (sasl/sasl_encoding.go) that the translator
  `harness/cmd/factgen` (translate.go) writes from /repo's CURRENT source on every run. The theorem
  below proves that the translated function IS the hand-written model's `Sasl.scan` (seen through
  Go's result triple) for every buffer and both values of `atEOF`: the theorems of C13 / C05 about
  the scanner loop are thereby theorems about what the source says now. An edit of the function
  that changes its behaviour, or that leaves the translated subset, breaks this module.

  How the ties of the `Props/Gen*` modules are proved. A tie has to survive every rewrite of the Go
  function that keeps its behaviour, so its proof must not follow the shape of the generated term.
  Each tie therefore has three parts. (1) A view lemma states the model's function, seen through
  Go's result tuple, as nested `if`s whose conditions are propositions and whose leaves are constant
  tuples, in the vocabulary the source computes in (lengths, `be16of`, `take`, …): this is where the
  content is, and it does not mention the generated term. (2) The library calls of the generated
  term (`Gen/Prelude*.lean`) are rewritten into that vocabulary and what is not arithmetic is
  generalised. (3) What is left on both sides is a decision tree over linear arithmetic and
  equations between variables; whichever way the source nests, orders or phrases its tests, the two
  trees agree on every path, and `grind` checks exactly that (case split on every condition, linear
  arithmetic on the paths, congruence at the leaves).
-/
import Whawty.Gen.Scan
import Whawty.Lemmas.Sasl
namespace Whawty.Gen.Tie
open Whawty.Sasl

/-- Go's `(advance, token, err)` for the model's outcome on the buffer `data`: "need more data"
    and "clean end" are both `(0, nil, nil)`; the token is the first `advance` bytes. -/
def goView (data : Bytes) : ScanR → Int × Option Bytes × Bool
  | .more => (0, none, false)
  | .eof => (0, none, false)
  | .err => (0, none, true)
  | .tok adv _ => ((adv : Int), some (data.take adv), false)

/-- The model's payload is the token without its two length bytes (`scanner.Bytes()[2:]` in
    `decodeLengthEncodedStrings`). -/
theorem scan_tok_payload (data : Bytes) (e : Bool) (adv : Nat) (p : Bytes) (h : scan data e = .tok adv p) :
    p = (data.take adv).drop 2 ∧ adv = p.length + 2 := by
  obtain ⟨_, rfl, r, rfl⟩ := scan_eq_tok_iff.mp h
  refine ⟨?_, rfl⟩
  rw [List.take_left' (by rw [List.length_append, length_be16, Nat.add_comm])]
  rfl

/-- The model's outcome in Go's terms, computed the way the source computes it: from the length of
    the buffer and the length `be16of data` that its first two bytes announce. -/
theorem goView_scan (data : Bytes) (e : Bool) :
    goView data (scan data e) =
      if data.length = 0 then (0, none, false)
      else if data.length < 2 then (0, none, e)
      else if be16of data > maxLen then (0, none, true)
      else if data.length < be16of data + 2 then (0, none, e)
      else (((be16of data + 2 : Nat) : Int), some (data.take (be16of data + 2)), false) := by
  match data with
  | [] | [_] => cases e <;> rfl
  | hi :: lo :: rest =>
    have hb : be16of (hi :: lo :: rest) = be16val hi lo := rfl
    rw [scan_cons_cons, hb, List.length_cons, List.length_cons]
    generalize be16val hi lo = n
    grind [goView]

theorem be16of_take (x : Bytes) : be16of (x.take 2) = be16of x := by
  match x with
  | [] | [_] | _ :: _ :: _ => rfl

/-- The source's split function is the model's `scan` (holds unchanged for the maintainer-style
    rewrites benign/B1-4: `len(data)-2 < strlen`, no special case for empty parts, and benign/B3-1:
    `end := 2 + strlen`, merged short-input tests). -/
theorem scan_is_source :
    scanLengthEncodedString = some (fun data atEOF => goView data (scan data atEOF)) := by
  unfold scanLengthEncodedString
  congr 1
  funext data atEOF
  rw [goView_scan]
  simp only [slice, Int.reduceToNat, List.drop_zero, Nat.sub_zero, be16of_take]
  generalize be16of data = n
  have : maxLen = 256 := rfl
  grind

/-- About the source's split function itself: an announced length above `MaxRequestLength` is an
    error whatever else is buffered and whether or not the stream has ended. -/
theorem source_scan_overlimit (f : Bytes → Bool → Int × Option Bytes × Bool)
    (hf : scanLengthEncodedString = some f) (hi lo : Byte) (rest : Bytes) (e : Bool)
    (h : be16val hi lo > 256) : f (hi :: lo :: rest) e = (0, none, true) := by
  obtain rfl := Option.some.inj (hf.symm.trans scan_is_source)
  simp only [scan_overlimit hi lo rest e h, goView]

/-- … a token it returns is a prefix of the buffer: the two length bytes and exactly the announced
    number of payload bytes; it never returns a token and an error together. -/
theorem source_scan_token (f : Bytes → Bool → Int × Option Bytes × Bool)
    (hf : scanLengthEncodedString = some f) (data : Bytes) (e : Bool) (adv : Int) (tok : Bytes) (err : Bool)
    (h : f data e = (adv, some tok, err)) :
    err = false ∧ ∃ hi lo rest, data = hi :: lo :: rest ∧ adv = (be16val hi lo + 2 : Nat) ∧
      be16val hi lo ≤ 256 ∧ be16val hi lo ≤ rest.length ∧ tok = data.take (be16val hi lo + 2) := by
  obtain rfl := Option.some.inj (hf.symm.trans scan_is_source)
  -- only the model's `tok` outcome shows a token
  cases hs : scan data e with
  | tok a p =>
    simp only [hs, goView, Prod.mk.injEq, Option.some.injEq] at h
    obtain ⟨rfl, rfl, rfl⟩ := h
    match data, hs with
    | [], hs | [_], hs => cases e <;> cases hs
    | hi :: lo :: rest, hs =>
      obtain ⟨h1, h2, rfl, -⟩ := scan_cons_cons_eq_tok_iff.mp hs
      exact ⟨rfl, hi, lo, rest, rfl, rfl, h1, h2, rfl⟩
  | _ => simp [hs, goView] at h

end Whawty.Gen.Tie
